/-
  C25: the unimodular complex number `e = exp(−iφ/2)` of `get_C_ss`.
-/
import Mathlib.Analysis.Complex.Trigonometric

namespace WB.C25
open Complex

noncomputable def eC (φ : ℝ) : ℂ := Complex.exp (-(Complex.I * φ / 2))

theorem conj_eC (φ : ℝ) : (starRingEnd ℂ) (eC φ) = Complex.exp (Complex.I * φ / 2) := by
  unfold eC
  rw [← Complex.exp_conj]
  congr 1
  simp only [map_neg, map_div₀, map_mul, Complex.conj_I, Complex.conj_ofReal, map_ofNat]
  ring

end WB.C25
