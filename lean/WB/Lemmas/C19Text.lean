/-
  C19: what the text readers see in the files produced by the writers (.eig, .amn, .mmn): the line at every
  index the readers compute, and the column maxima of the .eig file.
-/
import WB.Model.C19
import WB.Lemmas.C18Flat
import Mathlib.Data.Int.Order.Basic

namespace WB.C19
open WB.C18

variable {V : Type}

theorem length_flatMap2 {α} (f : Nat → Nat → List α) (c : Nat) (hf : ∀ i j, (f i j).length = c) (n m : Nat) :
    ((List.range n).flatMap (fun i => (List.range m).flatMap (f i))).length = n * (m * c) :=
  length_flatMap_range_const _ (m * c) (fun i => length_flatMap_range_const (f i) c (hf i) m) n

/-! ### column maximum -/

theorem foldl_max_ge_init {α} (g : α → Int) : ∀ (l : List α) (a : Int), a ≤ l.foldl (fun m x => max m (g x)) a
  | [], _ => le_refl _
  | x :: t, a => le_trans (le_max_left a (g x)) (foldl_max_ge_init g t _)

theorem foldl_max_ge_mem {α} (g : α → Int) : ∀ (l : List α) (a : Int) (x : α), x ∈ l →
    g x ≤ l.foldl (fun m x => max m (g x)) a
  | y :: t, a, x, h => by
    rcases List.mem_cons.mp h with rfl | h
    · exact le_trans (le_max_right a (g x)) (foldl_max_ge_init g t _)
    · exact foldl_max_ge_mem g t _ x h

theorem foldl_max_le {α} (g : α → Int) (M : Int) : ∀ (l : List α) (a : Int), a ≤ M → (∀ x ∈ l, g x ≤ M) →
    l.foldl (fun m x => max m (g x)) a ≤ M
  | [], _, ha, _ => ha
  | x :: t, _, ha, h =>
    foldl_max_le g M t _ (max_le ha (h x List.mem_cons_self)) (fun y hy => h y (List.mem_cons_of_mem _ hy))

theorem colMax_eq (f : File V) (c : Nat) (M : Int) (h0 : 0 ≤ M) (hle : ∀ l ∈ f, tokInt l c ≤ M)
    (hex : ∃ l ∈ f, tokInt l c = M) : colMax f c = M := by
  obtain ⟨l, hl, e⟩ := hex
  exact le_antisymm (foldl_max_le _ M f 0 h0 hle) (e ▸ foldl_max_ge_mem (fun l => tokInt l c) f 0 l hl)

/-! ### `.eig` -/

def eigLine (ρ : V → V) (E : Nat → Nat → V) (ik ib : Nat) : Line V :=
  [Tok.int ((ib : Int) + 1), Tok.int ((ik : Int) + 1), Tok.val (ρ (E ik ib))]

section eig
variable (ρ : V → V) (NK NB : Nat) (E : Nat → Nat → V)

theorem writeEig_eq :
    writeEig ρ NK NB E = (List.range NK).flatMap (fun ik => (List.range NB).map (eigLine ρ E ik)) := rfl

theorem length_writeEig : (writeEig ρ NK NB E).length = NK * NB :=
  length_flatMap_map_range _ NK NB

theorem lineAt_writeEig (ik ib : Nat) (hk : ik < NK) (hb : ib < NB) :
    lineAt (writeEig ρ NK NB E) (ik * NB + ib) = eigLine ρ E ik ib :=
  getD_flatMap_map_range (eigLine ρ E) [] NK NB ik ib hk hb

theorem mem_writeEig (l : Line V) :
    l ∈ writeEig ρ NK NB E ↔ ∃ ik, ik < NK ∧ ∃ ib, ib < NB ∧ eigLine ρ E ik ib = l := by
  simp only [writeEig_eq, List.mem_flatMap, List.mem_range, List.mem_map]

/-- both index columns are 1-based, so the maxima are the sizes -/
theorem colMax_writeEig (hK : 0 < NK) (hB : 0 < NB) :
    colMax (writeEig ρ NK NB E) 0 = NB ∧ colMax (writeEig ρ NK NB E) 1 = NK := by
  have hlast : eigLine ρ E (NK - 1) (NB - 1) ∈ writeEig ρ NK NB E :=
    (mem_writeEig ..).2 ⟨_, Nat.sub_lt hK Nat.one_pos, _, Nat.sub_lt hB Nat.one_pos, rfl⟩
  constructor
  · refine colMax_eq _ 0 NB (Int.natCast_nonneg _) (fun l hl => ?_) ⟨_, hlast, ?_⟩
    · obtain ⟨ik, -, ib, hb, rfl⟩ := (mem_writeEig ..).1 hl
      show (ib : Int) + 1 ≤ NB
      omega
    · show ((NB - 1 : Nat) : Int) + 1 = NB
      omega
  · refine colMax_eq _ 1 NK (Int.natCast_nonneg _) (fun l hl => ?_) ⟨_, hlast, ?_⟩
    · obtain ⟨ik, hk, ib, -, rfl⟩ := (mem_writeEig ..).1 hl
      show (ik : Int) + 1 ≤ NK
      omega
    · show ((NK - 1 : Nat) : Int) + 1 = NK
      omega

end eig

/-! ### `.amn` -/

def amnLine (ρ : V → V) (A : Nat → Nat → Nat → V × V) (ik iw ib : Nat) : Line V :=
  [Tok.int ((ib : Int) + 1), Tok.int ((iw : Int) + 1), Tok.int ((ik : Int) + 1), Tok.val (ρ (A ik ib iw).1),
   Tok.val (ρ (A ik ib iw).2)]

theorem writeAmn_eq (ρ : V → V) (NK NB NW : Nat) (A : Nat → Nat → Nat → V × V) :
    writeAmn ρ NK NB NW A = [] :: [Tok.int NB, Tok.int NK, Tok.int NW] ::
      (List.range NK).flatMap (fun ik => (List.range NW).flatMap (fun iw => (List.range NB).map (amnLine ρ A ik iw))) :=
  rfl

theorem lineAt_writeAmn (ρ : V → V) (NK NB NW : Nat) (A : Nat → Nat → Nat → V × V) (ik iw ib : Nat)
    (hk : ik < NK) (hw : iw < NW) (hb : ib < NB) :
    lineAt (writeAmn ρ NK NB NW A) (2 + (ik * (NW * NB) + (iw * NB + ib))) = amnLine ρ A ik iw ib := by
  rw [writeAmn_eq, Nat.add_comm 2]
  refine (getD_flatMap_range_const _ (NW * NB) (fun ik => length_flatMap_map_range (amnLine ρ A ik) NW NB) [] NK ik _
    hk (mul_add_lt_mul hw hb)).trans ?_
  exact getD_flatMap_map_range (amnLine ρ A ik) [] NW NB iw ib hw hb

/-! ### `.mmn` -/

def mmnHead (nbr : Nat → Nat → Int) (G : Nat → Nat → Vec3) (ik ib : Nat) : Line V :=
  [Tok.int ((ik : Int) + 1), Tok.int (nbr ik ib + 1), Tok.int (G ik ib).1, Tok.int (G ik ib).2.1, Tok.int (G ik ib).2.2]

def mmnBlock (NB : Nat) (nbr : Nat → Nat → Int) (G : Nat → Nat → Vec3) (M : Nat → Nat → Nat → Nat → V × V)
    (ik ib : Nat) : File V :=
  mmnHead nbr G ik ib ::
    (List.range NB).flatMap (fun (m : Nat) => (List.range NB).map (fun (n : Nat) =>
      [Tok.val (M ik ib n m).1, Tok.val (M ik ib n m).2]))

section mmn
variable (NK NNB NB : Nat) (nbr : Nat → Nat → Int) (G : Nat → Nat → Vec3) (M : Nat → Nat → Nat → Nat → V × V)

theorem writeMmn_eq :
    writeMmn NK NNB NB nbr G M = [] :: [Tok.int NB, Tok.int NK, Tok.int NNB] ::
      (List.range NK).flatMap (fun ik => (List.range NNB).flatMap (mmnBlock NB nbr G M ik)) := rfl

theorem length_mmnBlock (ik ib : Nat) : (mmnBlock NB nbr G M ik ib).length = 1 + NB * NB := by
  rw [mmnBlock, List.length_cons, length_flatMap_map_range, Nat.add_comm]

theorem lineAt_writeMmn (ik ib j : Nat) (hk : ik < NK) (hb : ib < NNB) (hj : j < 1 + NB * NB) :
    lineAt (writeMmn NK NNB NB nbr G M) (2 + ((ik * NNB + ib) * (1 + NB * NB) + j))
      = lineAt (mmnBlock NB nbr G M ik ib) j := by
  rw [writeMmn_eq, Nat.add_mul, Nat.mul_assoc, Nat.add_assoc, Nat.add_comm 2]
  refine (getD_flatMap_range_const _ (NNB * (1 + NB * NB))
    (fun ik => length_flatMap_range_const _ _ (length_mmnBlock NB nbr G M ik) NNB) [] NK ik _ hk
    (mul_add_lt_mul hb hj)).trans ?_
  exact getD_flatMap_range_const _ _ (length_mmnBlock NB nbr G M ik) [] NNB ib j hb hj

theorem lineAt_writeMmn_head (ik ib : Nat) (hk : ik < NK) (hb : ib < NNB) :
    lineAt (writeMmn NK NNB NB nbr G M) (2 + (ik * NNB + ib) * (1 + NB * NB)) = mmnHead nbr G ik ib :=
  lineAt_writeMmn NK NNB NB nbr G M ik ib 0 hk hb (Nat.lt_add_right _ Nat.one_pos)

theorem lineAt_writeMmn_body (ik ib m n : Nat) (hk : ik < NK) (hb : ib < NNB) (hm : m < NB) (hn : n < NB) :
    lineAt (writeMmn NK NNB NB nbr G M) (2 + ((ik * NNB + ib) * (1 + NB * NB) + (1 + (m * NB + n))))
      = [Tok.val (M ik ib n m).1, Tok.val (M ik ib n m).2] := by
  rw [lineAt_writeMmn NK NNB NB nbr G M ik ib _ hk hb (Nat.add_lt_add_left (mul_add_lt_mul hm hn) 1), Nat.add_comm 1]
  exact getD_flatMap_map_range _ [] NB NB m n hm hn

end mmn

end WB.C19
