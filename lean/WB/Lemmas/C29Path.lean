/-
  Helper lemmas for C29: `Path.from_nodes` (the loop only appends: prefix relation between its states) and
  `Path.get_refined` (the appended points `refPts`, one block per original point).
-/
import WB.Model.C29
import Mathlib.Data.List.Basic
import Mathlib.Data.List.GetD
import Mathlib.Algebra.Order.Field.Rat

namespace WB.C29

/-! ### reading lists -/

theorem getD_append_add {α} (l l' : List α) (d : α) (j : Nat) : (l ++ l').getD (l.length + j) d = l'.getD j d := by
  rw [List.getD_append_right _ _ _ _ (Nat.le_add_right _ _), Nat.add_sub_cancel_left]

theorem getD_append_length {α} (l l' : List α) (x d : α) : (l ++ x :: l').getD l.length d = x :=
  getD_append_add l (x :: l') d 0

theorem getD_drop {α} (l : List α) (d : α) (n j : Nat) : l.getD (n + j) d = (l.drop n).getD j d := by
  rw [List.getD_eq_getElem?_getD, List.getD_eq_getElem?_getD, List.getElem?_drop]

theorem getD_of_prefix {α} {l r : List α} (h : l <+: r) (d : α) {n : Nat} (hn : n < l.length) :
    r.getD n d = l.getD n d := by
  obtain ⟨e, rfl⟩ := h
  exact List.getD_append l e d n hn

theorem getD_of_prefix_concat {α} {l r : List α} {x : α} (h : l ++ [x] <+: r) (d : α) : r.getD l.length d = x := by
  rw [getD_of_prefix h d (by rw [List.length_append]; exact Nat.lt_succ_self _), getD_append_length]

theorem mem_of_prefix_concat {α} {l r : List α} {x : α} (h : l ++ [x] <+: r) : x ∈ r :=
  h.subset (List.mem_append_right _ (List.mem_singleton_self x))

theorem keys_lt_append {d : List (Nat × Nat)} {n m : Nat} (h : ∀ p ∈ d, p.1 < n) (hm : n < m) (o : Option Nat) :
    ∀ p ∈ d ++ (o.map (fun v => (n, v))).toList, p.1 < m := by
  intro p hp
  rcases List.mem_append.1 hp with hp | hp
  · exact lt_trans (h p hp) hm
  · cases o with
    | none => cases hp
    | some v => rw [List.mem_singleton.1 hp]; exact hm

/-! ### segments -/

theorem lerp_zero (a b : Q3) (m : Nat) : lerp a b 0 m = a := by
  unfold lerp add3 smul3 sub3
  simp

theorem segPts_length (a b : Q3) (n : Nat) : (segPts a b n).length = n - 1 := by
  unfold segPts; simp

theorem segPts_getD (a b : Q3) (n j : Nat) (hj : j < n - 1) : (segPts a b n).getD j (0, 0, 0) = lerp a b j (n - 1) := by
  unfold segPts
  rw [List.getD_eq_getElem?_getD, List.getElem?_map, List.getElem?_range hj]
  rfl

theorem segPts_eq_cons (a b : Q3) (n : Nat) (hn : 2 ≤ n) : segPts a b n = a :: (segPts a b n).tail := by
  obtain ⟨k, hk⟩ : ∃ k, n - 1 = k + 1 := ⟨n - 2, by omega⟩
  unfold segPts
  rw [hk, List.range_succ_eq_map, List.map_cons, lerp_zero]
  rfl

theorem two_le_headD (nks : List Nat) (hn : ∀ n ∈ nks, 2 ≤ n) : 2 ≤ nks.headD 2 := by
  cases nks with
  | nil => exact le_refl _
  | cons m l => exact hn m List.mem_cons_self

theorem two_le_of_mem_tail {nks : List Nat} (hn : ∀ n ∈ nks, 2 ≤ n) : ∀ n ∈ nks.tail, 2 ≤ n :=
  fun n h => hn n (List.mem_of_mem_tail h)

/-! ### from_nodes -/

/-- the label keys are indices of stored points, in strictly increasing order -/
def Inv (st : PathM) : Prop :=
  (∀ p ∈ st.labels, p.1 < st.K.length) ∧ (st.labels.map (·.1)).Pairwise (· < ·)

theorem inv_empty : Inv PathM.empty := by
  unfold Inv PathM.empty; simp

theorem dictSet_fresh (d : List (Nat × Nat)) (k v : Nat) (h : ∀ p ∈ d, p.1 < k) : dictSet d k v = d ++ [(k, v)] := by
  unfold dictSet
  rw [if_neg]
  rw [List.any_eq_true]
  rintro ⟨p, hp, hk⟩
  exact absurd (beq_iff_eq.1 hk) (Nat.ne_of_lt (h p hp))

/-- reading the stored points at the labelled indices -/
def labelsRead (st : PathM) : List (Q3 × Nat) := st.labels.map (fun p => (st.K.getD p.1 (0, 0, 0), p.2))

/-- the non-None nodes with their labels, in order -/
def someNodes (nodes : List (Option (Q3 × Nat))) : List (Q3 × Nat) := nodes.filterMap id

/-- the body of the loop at a node: `new_labels[len(K)] = la ; K = vstack(K, a :: more)`, breaks set to `brk` -/
def appendNode (st : PathM) (a : Q3) (more : List Q3) (la : Nat) (brk : List Nat) : PathM :=
  { K := st.K ++ a :: more, labels := dictSet st.labels st.K.length la, breaks := brk }

section
variable {st : PathM} (hinv : Inv st) (a : Q3) (more : List Q3) (la : Nat) (brk : List Nat)
include hinv

theorem appendNode_labels : (appendNode st a more la brk).labels = st.labels ++ [(st.K.length, la)] :=
  dictSet_fresh _ _ _ hinv.1

theorem appendNode_inv : Inv (appendNode st a more la brk) := by
  have hlen : st.K.length < (appendNode st a more la brk).K.length := by
    show _ < (st.K ++ a :: more).length
    rw [List.length_append]; exact Nat.lt_add_of_pos_right (Nat.succ_pos _)
  rw [Inv, appendNode_labels hinv]
  refine ⟨keys_lt_append hinv.1 hlen (some la), ?_⟩
  rw [List.map_append, List.pairwise_append]
  refine ⟨hinv.2, List.pairwise_singleton _ _, fun x hx y hy => ?_⟩
  obtain ⟨p, hp, rfl⟩ := List.mem_map.mp hx
  rw [List.mem_singleton.1 hy]
  exact hinv.1 p hp

theorem labelsRead_appendNode : labelsRead (appendNode st a more la brk) = labelsRead st ++ [(a, la)] := by
  unfold labelsRead
  rw [appendNode_labels hinv, List.map_append]
  congr 1
  · refine List.map_congr_left fun p hp => ?_
    show ((st.K ++ a :: more).getD p.1 (0, 0, 0), p.2) = _
    rw [List.getD_append _ _ _ _ (hinv.1 p hp)]
  · show [((st.K ++ a :: more).getD st.K.length (0, 0, 0), la)] = _
    rw [getD_append_length]

end

/-- `r` continues `st`: only appends; `ns` are the labelled points read back behind those of `st`, and the first of
    them (the next node) is stored immediately behind `st` -/
structure Continues (st r : PathM) (ns : List (Q3 × Nat)) : Prop where
  inv : Inv r
  read : labelsRead r = labelsRead st ++ ns
  K : st.K <+: r.K
  labels : st.labels <+: r.labels
  breaks : st.breaks <+: r.breaks
  next_node : ∀ a la ns', ns = (a, la) :: ns' → st.K ++ [a] <+: r.K ∧ st.labels ++ [(st.K.length, la)] <+: r.labels

theorem Continues.refl {st : PathM} (hinv : Inv st) : Continues st st [] :=
  ⟨hinv, (List.append_nil _).symm, List.prefix_rfl, List.prefix_rfl, List.prefix_rfl, fun _ _ _ h => nomatch h⟩

theorem Continues.cons {st r : PathM} {a : Q3} {more : List Q3} {la : Nat} {brk : List Nat} {ns : List (Q3 × Nat)}
    (hinv : Inv st) (hb : st.breaks <+: brk) (h : Continues (appendNode st a more la brk) r ns) :
    Continues st r ((a, la) :: ns) := by
  have hl := h.labels
  rw [appendNode_labels hinv] at hl
  refine ⟨h.inv, ?_, (List.prefix_append _ _).trans h.K, (List.prefix_append _ _).trans hl, hb.trans h.breaks, ?_⟩
  · rw [h.read, labelsRead_appendNode hinv, List.append_assoc]; rfl
  · rintro _ _ _ ⟨⟩
    exact ⟨List.IsPrefix.trans ((List.prefix_append_right_inj _).2 (List.cons_prefix_cons.2 ⟨rfl, List.nil_prefix⟩)) h.K, hl⟩

section
variable (a b : Q3) (la lb : Nat) (y : Option (Q3 × Nat)) (rest : List (Option (Q3 × Nat))) (nks : List Nat) (st : PathM)

theorem fromNodesLoop_none_cons : fromNodesLoop (none :: y :: rest) nks st = fromNodesLoop (y :: rest) nks st := rfl

theorem fromNodesLoop_some_none : fromNodesLoop (some (a, la) :: none :: rest) nks st
    = fromNodesLoop (none :: rest) nks (appendNode st a [] la (st.breaks ++ [st.K.length])) := rfl

theorem fromNodesLoop_some_some (hn : ∀ n ∈ nks, 2 ≤ n) : fromNodesLoop (some (a, la) :: some (b, lb) :: rest) nks st
    = fromNodesLoop (some (b, lb) :: rest) nks.tail (appendNode st a (segPts a b (nks.headD 2)).tail la st.breaks) := by
  rw [fromNodesLoop, segPts_eq_cons a b _ (two_le_headD nks hn)]
  rfl

end

theorem fromNodesLoop_spec (nodes : List (Option (Q3 × Nat))) (nks : List Nat) (st r : PathM) (hinv : Inv st)
    (hn : ∀ n ∈ nks, 2 ≤ n) (h : fromNodesLoop nodes nks st = some r) : Continues st r (someNodes nodes) := by
  induction nodes generalizing nks st with
  | nil => cases h
  | cons x l ih =>
    match x, l, h with
    | none, [], h => cases h
    | none, y :: rest, h => exact ih nks st hinv hn h
    | some (a, la), [], h =>
      cases h
      exact (Continues.refl (appendNode_inv hinv ..)).cons hinv List.prefix_rfl
    | some (a, la), none :: rest, h =>
      exact (ih nks _ (appendNode_inv hinv ..) hn h).cons hinv (List.prefix_append _ _)
    | some (a, la), some (b, lb) :: rest, h =>
      rw [fromNodesLoop_some_some a b la lb rest nks st hn] at h
      exact (ih nks.tail _ (appendNode_inv hinv ..) (two_le_of_mem_tail hn) h).cons hinv List.prefix_rfl

/-- what is proved about the loop from a state with `Inv` holds inside every run of `fromNodes` -/
theorem fromNodesLoop_reaches (pre suf : List (Option (Q3 × Nat))) (nks : List Nat) (st r : PathM) (hs : suf ≠ [])
    (hinv : Inv st) (hn : ∀ n ∈ nks, 2 ≤ n) (h : fromNodesLoop (pre ++ suf) nks st = some r) :
    ∃ st' nks', Inv st' ∧ (∀ n ∈ nks', 2 ≤ n) ∧ fromNodesLoop suf nks' st' = some r := by
  induction pre generalizing nks st with
  | nil => exact ⟨st, nks, hinv, hn, h⟩
  | cons x pre ih =>
    obtain ⟨y, l, e⟩ := List.exists_cons_of_ne_nil (List.append_ne_nil_of_right_ne_nil pre hs)
    rw [List.cons_append, e] at h
    match x, y, e, h with
    | none, y, e, h =>
      rw [fromNodesLoop_none_cons, ← e] at h
      exact ih nks st hinv hn h
    | some (a, la), none, e, h =>
      rw [fromNodesLoop_some_none, ← e] at h
      exact ih nks _ (appendNode_inv hinv ..) hn h
    | some (a, la), some (b, lb), e, h =>
      rw [fromNodesLoop_some_some a b la lb l nks st hn, ← e] at h
      exact ih nks.tail _ (appendNode_inv hinv ..) (two_le_of_mem_tail hn) h

/-! ### get_refined -/

/-- number of refined points generated for original point `i` -/
def stepLen (P : PathM) (factor i : Nat) : Nat := if P.breaks.contains i then 1 else factor

theorem interior_length (a b : Q3) (factor : Nat) : (interior a b factor).length = factor - 1 := by
  unfold interior; simp

/-- the refined points written for the original point `a` at index `i` when `b` follows -/
def block (P : PathM) (factor i : Nat) (a b : Q3) : List Q3 :=
  a :: if P.breaks.contains i then [] else interior a b factor

theorem block_length (P : PathM) {factor : Nat} (hf : 1 ≤ factor) (i : Nat) (a b : Q3) :
    (block P factor i a b).length = stepLen P factor i := by
  unfold block stepLen
  split
  · rfl
  · rw [List.length_cons, interior_length]; omega

theorem block_getD (P : PathM) (factor i : Nat) (a b : Q3) (hnb : P.breaks.contains i = false) (j : Nat)
    (hj : j < factor) (X : List Q3) : (block P factor i a b ++ X).getD j (0, 0, 0) = lerp a b j factor := by
  unfold block
  rw [hnb, if_neg Bool.false_ne_true]
  cases j with
  | zero => exact (lerp_zero a b factor).symm
  | succ j =>
    rw [List.cons_append, List.getD_cons_succ, List.getD_append _ _ _ _ (by rw [interior_length]; omega)]
    unfold interior
    rw [List.getD_eq_getElem?_getD, List.getElem?_map, List.getElem?_range (by omega)]
    rfl

/-- all points appended while scanning the remaining original points `l` from original index `i` -/
def refPts (P : PathM) (factor : Nat) : Nat → List Q3 → List Q3
  | _, [] => []
  | _, [a] => [a]
  | i, a :: b :: rest => block P factor i a b ++ refPts P factor (i + 1) (b :: rest)

/-- the state after the loop body for original point `i`: `pushOrig`, then the interior points unless `i` is a break -/
def scanStep (P : PathM) (factor i : Nat) (a b : Q3) (st : PathM) : PathM :=
  { pushOrig P i a st with K := st.K ++ block P factor i a b }

theorem refineGo_cons_cons (P : PathM) (factor i : Nat) (a b : Q3) (rest : List Q3) (st : PathM) :
    refineGo P factor i (a :: b :: rest) st = refineGo P factor (i + 1) (b :: rest) (scanStep P factor i a b st) := by
  simp only [refineGo, scanStep, block]
  split
  · rfl
  · congr 2
    exact List.append_assoc _ _ _

theorem refineGo_K (P : PathM) (factor : Nat) (l : List Q3) (i : Nat) (st : PathM) :
    (refineGo P factor i l st).K = st.K ++ refPts P factor i l := by
  induction l generalizing i st with
  | nil => exact (List.append_nil _).symm
  | cons a l ih =>
    cases l with
    | nil => rfl
    | cons b rest =>
      rw [refineGo_cons_cons, ih, refPts, ← List.append_assoc]
      rfl

/-- refined offset of the `t`-th remaining point when the scan is at original index `i` -/
def phiFrom (P : PathM) (factor : Nat) : Nat → Nat → Nat
  | _, 0 => 0
  | i, t + 1 => stepLen P factor i + phiFrom P factor (i + 1) t

theorem phiFrom_succ (P : PathM) (factor : Nat) : ∀ i t : Nat,
    phiFrom P factor i (t + 1) = phiFrom P factor i t + stepLen P factor (i + t)
  | _, 0 => (Nat.zero_add _).symm
  | i, t + 1 => by
    show stepLen P factor i + phiFrom P factor (i + 1) (t + 1)
      = stepLen P factor i + phiFrom P factor (i + 1) t + stepLen P factor (i + (t + 1))
    rw [phiFrom_succ P factor (i + 1) t, Nat.add_assoc (stepLen P factor i), Nat.add_right_comm i 1 t]
    rfl

theorem refPts_drop (P : PathM) {factor : Nat} (hf : 1 ≤ factor) (l : List Q3) (i t : Nat) (ht : t < l.length) :
    (refPts P factor i l).drop (phiFrom P factor i t) = refPts P factor (i + t) (l.drop t) := by
  induction t generalizing l i with
  | zero => rfl
  | succ t ih =>
    match l, ht with
    | [_], ht => exact absurd ht (by simp)
    | a :: b :: rest, ht =>
      rw [phiFrom, refPts, ← block_length P hf i a b, List.drop_length_add_append,
        ih (b :: rest) (i + 1) (Nat.lt_of_succ_lt_succ ht), Nat.add_right_comm]
      rfl

theorem refPts_head (P : PathM) (factor i : Nat) (a : Q3) (l : List Q3) (d : Q3) :
    (refPts P factor i (a :: l)).getD 0 d = a := by
  cases l <;> rfl

theorem refine_K (P : PathM) (factor : Nat) : (refine P factor).K = refPts P factor 0 P.K := by
  rw [refine, refineGo_K]
  rfl

theorem refPts_point (P : PathM) {factor : Nat} (hf : 1 ≤ factor) (l : List Q3) (i t : Nat) (ht : t < l.length) (d : Q3) :
    (refPts P factor i l).getD (phiFrom P factor i t) d = l.getD t d := by
  rw [← Nat.add_zero (phiFrom P factor i t), getD_drop, refPts_drop P hf l i t ht, List.drop_eq_getElem_cons ht,
    refPts_head, List.getD_eq_getElem _ _ ht]

theorem refPts_between (P : PathM) {factor : Nat} (hf : 1 ≤ factor) (l : List Q3) (i t j : Nat)
    (ht : t + 1 < l.length) (hnb : P.breaks.contains (i + t) = false) (hj : j < factor) :
    (refPts P factor i l).getD (phiFrom P factor i t + j) (0, 0, 0)
      = lerp (l.getD t (0, 0, 0)) (l.getD (t + 1) (0, 0, 0)) j factor := by
  have ht' : t < l.length := Nat.lt_of_succ_lt ht
  rw [getD_drop, refPts_drop P hf l i t ht', List.drop_eq_getElem_cons ht', List.drop_eq_getElem_cons ht, refPts,
    block_getD P factor (i + t) _ _ hnb j hj, List.getD_eq_getElem _ _ ht', List.getD_eq_getElem _ _ ht]

/-! ### get_refined: labels and breaks -/

theorem filterMap_range_succ {β} (f : Nat → Option β) (n : Nat) :
    (List.range (n + 1)).filterMap f = (f 0).toList ++ (List.range n).filterMap (fun t => f (t + 1)) := by
  rw [List.range_succ_eq_map, List.filterMap_cons, List.filterMap_map]
  cases f 0 <;> rfl

/-- marks while scanning `n` original points from index `i` (refined index `base`): `g j pos` is the mark, if any, of
    original point `j` stored at refined index `pos` -/
def marks {β} (P : PathM) (factor : Nat) (g : Nat → Nat → Option β) (base i n : Nat) : List β :=
  (List.range n).filterMap (fun t => g (i + t) (base + phiFrom P factor i t))

theorem marks_succ {β} (P : PathM) (factor : Nat) (g : Nat → Nat → Option β) (base i n : Nat) :
    marks P factor g base i (n + 1) = (g i base).toList ++ marks P factor g (base + stepLen P factor i) (i + 1) n := by
  unfold marks
  rw [filterMap_range_succ]
  congr 2
  funext t
  -- original point `i + (t+1) = (i+1) + t`, at `base + (stepLen i + phiFrom (i+1) t)` by the recursion of `phiFrom`
  rw [Nat.add_right_comm i 1 t, Nat.add_assoc base]
  rfl

theorem mem_marks {β} (P : PathM) (factor : Nat) (g : Nat → Nat → Option β) (base i n : Nat) (x : β) :
    x ∈ marks P factor g base i n ↔ ∃ t, t < n ∧ g (i + t) (base + phiFrom P factor i t) = some x := by
  simp only [marks, List.mem_filterMap, List.mem_range]

theorem pushOrig_labels (P : PathM) (i : Nat) (a : Q3) (st : PathM) (hk : ∀ p ∈ st.labels, p.1 < st.K.length) :
    (pushOrig P i a st).labels = st.labels ++ ((dictGet P.labels i).map (fun v => (st.K.length, v))).toList := by
  unfold pushOrig
  cases dictGet P.labels i with
  | none => exact (List.append_nil _).symm
  | some v => exact dictSet_fresh _ _ _ hk

theorem pushOrig_breaks (P : PathM) (i : Nat) (a : Q3) (st : PathM) :
    (pushOrig P i a st).breaks = st.breaks ++ (if P.breaks.contains i then some st.K.length else none).toList := by
  show (if P.breaks.contains i then st.breaks ++ [st.K.length] else st.breaks) = _
  split
  · rfl
  · exact (List.append_nil _).symm

theorem refineGo_marks (P : PathM) {factor : Nat} (hf : 1 ≤ factor) (l : List Q3) (i : Nat) (st : PathM)
    (hk : ∀ p ∈ st.labels, p.1 < st.K.length) :
    (refineGo P factor i l st).labels = st.labels ++
      marks P factor (fun j pos => (dictGet P.labels j).map (fun v => (pos, v))) st.K.length i l.length ∧
    (refineGo P factor i l st).breaks = st.breaks ++
      marks P factor (fun j pos => if P.breaks.contains j then some pos else none) st.K.length i l.length := by
  induction l generalizing i st with
  | nil => exact ⟨(List.append_nil _).symm, (List.append_nil _).symm⟩
  | cons a l ih =>
    cases l with
    | nil => exact ⟨pushOrig_labels P i a st hk, pushOrig_breaks P i a st⟩
    | cons b rest =>
      have hlab : (scanStep P factor i a b st).labels = _ := pushOrig_labels P i a st hk
      have hbrk : (scanStep P factor i a b st).breaks = _ := pushOrig_breaks P i a st
      have hlen : (scanStep P factor i a b st).K.length = st.K.length + stepLen P factor i := by
        rw [← block_length P hf i a b]; exact List.length_append
      obtain ⟨j1, j2⟩ := ih (i + 1) (scanStep P factor i a b st) (by
        rw [hlab, hlen, ← block_length P hf i a b]
        exact keys_lt_append hk (Nat.lt_add_of_pos_right (Nat.succ_pos _)) _)
      rw [refineGo_cons_cons, j1, j2, hlab, hbrk, hlen, List.append_assoc, List.append_assoc,
        show (a :: b :: rest).length = (b :: rest).length + 1 from rfl, marks_succ, marks_succ]
      exact ⟨rfl, rfl⟩

end WB.C29
