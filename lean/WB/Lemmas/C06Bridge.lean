/-
  C06 bridge: the ingredients that lead from GROUP hypotheses on the list of operations (identity, inverses, products,
  the grid is symmetric) to the hypotheses `OrbitHyp` on the star relation (`orbitHyp_of_groupHyp` in Props/C06).
-/
import WB.Lemmas.C06Orbit
import Mathlib.Data.Rat.Floor
import Mathlib.Tactic.LinearCombination

namespace WB.C06

/-! ### integers among the rationals, equality modulo lattice vectors -/

def IsIntR (r : Rat) : Prop := ∃ z : Int, r = z

theorem isInt_iff (r : Rat) : isInt r = true ↔ IsIntR r := by
  unfold isInt IsIntR
  simp only [beq_iff_eq]
  constructor
  · intro h; exact ⟨r.num, ((Rat.den_eq_one_iff r).mp h).symm⟩
  · rintro ⟨z, rfl⟩; exact Rat.den_intCast z

theorem IsIntR.add {a b : Rat} : IsIntR a → IsIntR b → IsIntR (a + b) := by
  rintro ⟨x, rfl⟩ ⟨y, rfl⟩; exact ⟨x + y, by push_cast; ring⟩
theorem IsIntR.sub {a b : Rat} : IsIntR a → IsIntR b → IsIntR (a - b) := by
  rintro ⟨x, rfl⟩ ⟨y, rfl⟩; exact ⟨x - y, by push_cast; ring⟩
theorem IsIntR.neg {a : Rat} : IsIntR a → IsIntR (-a) := by
  rintro ⟨x, rfl⟩; exact ⟨-x, by push_cast; ring⟩
theorem IsIntR.mul_int {a : Rat} (m : Int) : IsIntR a → IsIntR (a * m) := by
  rintro ⟨x, rfl⟩; exact ⟨x * m, by push_cast; ring⟩
theorem IsIntR.mul {a b : Rat} : IsIntR a → IsIntR b → IsIntR (a * b) := by
  rintro ⟨x, rfl⟩ ⟨y, rfl⟩; exact ⟨x * y, by push_cast; ring⟩
theorem IsIntR.zero : IsIntR 0 := ⟨0, by simp⟩

def EqM (a b : V3) : Prop := IsIntR (a.x - b.x) ∧ IsIntR (a.y - b.y) ∧ IsIntR (a.z - b.z)

theorem eqMod1_iff (a b : V3) : eqMod1 a b = true ↔ EqM a b := by
  unfold eqMod1 EqM
  simp only [Bool.and_eq_true, isInt_iff, and_assoc]

theorem EqM.refl (a : V3) : EqM a a := by
  unfold EqM; simp only [sub_self]; exact ⟨IsIntR.zero, IsIntR.zero, IsIntR.zero⟩

theorem EqM.symm {a b : V3} (h : EqM a b) : EqM b a :=
  ⟨neg_sub a.x b.x ▸ h.1.neg, neg_sub a.y b.y ▸ h.2.1.neg, neg_sub a.z b.z ▸ h.2.2.neg⟩

theorem EqM.trans {a b c : V3} (h : EqM a b) (h' : EqM b c) : EqM a c :=
  ⟨sub_add_sub_cancel a.x b.x c.x ▸ h.1.add h'.1, sub_add_sub_cancel a.y b.y c.y ▸ h.2.1.add h'.2.1,
    sub_add_sub_cancel a.z b.z c.z ▸ h.2.2.add h'.2.2⟩

theorem sign_eq_isgn (s : Sym) : s.sign = (s.isgn : Rat) := by
  unfold Sym.sign Sym.isgn
  cases s.tr <;> cases s.inv <;> simp

theorem sign_int (s : Sym) : IsIntR s.sign := ⟨s.isgn, sign_eq_isgn s⟩

/-- an operation with integer matrix maps lattice vectors to lattice vectors -/
theorem apply_EqM (s : Sym) {a b : V3} (h : EqM a b) : EqM (s.apply a) (s.apply b) := by
  obtain ⟨h1, h2, h3⟩ := h
  unfold EqM Sym.apply
  simp only
  refine ⟨?_, ?_, ?_⟩
  · have := (((h1.mul_int s.m11).add (h2.mul_int s.m21)).add (h3.mul_int s.m31)).mul (sign_int s)
    convert this using 1; ring
  · have := (((h1.mul_int s.m12).add (h2.mul_int s.m22)).add (h3.mul_int s.m32)).mul (sign_int s)
    convert this using 1; ring
  · have := (((h1.mul_int s.m13).add (h2.mul_int s.m23)).add (h3.mul_int s.m33)).mul (sign_int s)
    convert this using 1; ring

/-! ### one direction of `toIdx` -/

theorem roundHE_int (n : Int) : roundHE (n : Rat) = n := by
  unfold roundHE
  have hfl : ((n : Rat).floor : Int) = n := by show ⌊(n : Rat)⌋ = n; exact Int.floor_intCast n
  simp only [hfl]
  norm_num

def idx1 (d : Nat) (r : Rat) : Nat := (roundHE (r * d) % (d : Int)).toNat

theorem toIdx_eq (div : Idx) (k : V3) : toIdx div k = (idx1 div.1 k.x, idx1 div.2.1 k.y, idx1 div.2.2 k.z) := rfl

theorem idx1_of_int (d : Nat) (r : Rat) (z : Int) (h : r * d = z) : idx1 d r = (z % (d : Int)).toNat := by
  unfold idx1; rw [h, roundHE_int]

theorem idx1_congr (d : Nat) (r r' : Rat) (hm : IsIntR (r - r')) (hz : IsIntR (r * d)) : idx1 d r = idx1 d r' := by
  obtain ⟨m, hm⟩ := hm
  obtain ⟨z, hz⟩ := hz
  have h' : r' * d = ((z - m * d : Int) : Rat) := by
    push_cast; rw [← hz, ← hm]; ring
  rw [idx1_of_int d r z hz, idx1_of_int d r' _ h', Int.sub_mul_emod_self_right]

/-- `idx1 d r` is `r d` reduced by a multiple of `d` -/
theorem idx1_cast (d : Nat) (hd : 0 < d) (r : Rat) (z : Int) (hz : r * d = z) :
    ((idx1 d r : Nat) : Rat) = r * d - d * ((z / (d : Int) : Int) : Rat) := by
  have : (((z % (d : Int)).toNat : Nat) : Int) = z - d * (z / d) := by
    rw [Int.toNat_of_nonneg (Int.emod_nonneg z (by omega)), Int.emod_def]
  rw [idx1_of_int d r z hz, hz]
  exact_mod_cast this

theorem idx1_inj (d : Nat) (hd : 0 < d) (r r' : Rat) (hz : IsIntR (r * d)) (hz' : IsIntR (r' * d))
    (h : idx1 d r = idx1 d r') : IsIntR (r - r') := by
  obtain ⟨z, hz⟩ := hz
  obtain ⟨z', hz'⟩ := hz'
  have e := idx1_cast d hd r z hz
  rw [h, idx1_cast d hd r' z' hz'] at e
  refine ⟨z / d - z' / d, mul_right_cancel₀ (by exact_mod_cast hd.ne' : (d : Rat) ≠ 0) ?_⟩
  push_cast; linarith

theorem idx1_gridCoord (d p : Nat) (hp : p < d) : idx1 d ((p : Rat) * (1 / (d : Rat))) = p := by
  have hd : (d : Rat) ≠ 0 := by exact_mod_cast (by omega : d ≠ 0)
  have : (p : Rat) * (1 / (d : Rat)) * d = ((p : Int) : Rat) := by push_cast; field_simp
  rw [idx1_of_int d _ p this, Int.emod_eq_of_lt (by omega) (by omega)]
  simp

theorem gridCoord_idx1 (d : Nat) (hd : 0 < d) (r : Rat) (hz : IsIntR (r * d)) :
    IsIntR (((idx1 d r : Nat) : Rat) * (1 / (d : Rat)) - r) := by
  obtain ⟨z, hz⟩ := hz
  have hdr : (d : Rat) ≠ 0 := by exact_mod_cast hd.ne'
  refine ⟨-(z / (d : Int)), ?_⟩
  rw [idx1_cast d hd r z hz]; push_cast; field_simp; ring

/-! ### the grid -/

def OnGrid (div : Idx) (k : V3) : Prop :=
  IsIntR (k.x * div.1) ∧ IsIntR (k.y * div.2.1) ∧ IsIntR (k.z * div.2.2)

theorem toIdx_congr (div : Idx) {a b : V3} (h : EqM a b) (ha : OnGrid div a) : toIdx div a = toIdx div b := by
  rw [toIdx_eq, toIdx_eq, idx1_congr _ _ _ h.1 ha.1, idx1_congr _ _ _ h.2.1 ha.2.1, idx1_congr _ _ _ h.2.2 ha.2.2]

theorem toIdx_inj (div : Idx) (hd : 0 < div.1 ∧ 0 < div.2.1 ∧ 0 < div.2.2) {a b : V3}
    (ha : OnGrid div a) (hb : OnGrid div b) (h : toIdx div a = toIdx div b) : EqM a b := by
  rw [toIdx_eq, toIdx_eq] at h
  simp only [Prod.mk.injEq] at h
  exact ⟨idx1_inj _ hd.1 _ _ ha.1 hb.1 h.1, idx1_inj _ hd.2.1 _ _ ha.2.1 hb.2.1 h.2.1,
    idx1_inj _ hd.2.2 _ _ ha.2.2 hb.2.2 h.2.2⟩

theorem toIdx_gridK (div p : Idx) (hp : inRange div p) : toIdx div (gridK div p) = p := by
  rw [toIdx_eq]
  unfold gridK
  simp only
  rw [idx1_gridCoord _ _ hp.1, idx1_gridCoord _ _ hp.2.1, idx1_gridCoord _ _ hp.2.2]

theorem gridK_toIdx (div : Idx) (hd : 0 < div.1 ∧ 0 < div.2.1 ∧ 0 < div.2.2) (k : V3) (hk : OnGrid div k) :
    EqM (gridK div (toIdx div k)) k := by
  rw [toIdx_eq]
  unfold gridK EqM
  simp only
  exact ⟨gridCoord_idx1 _ hd.1 _ hk.1, gridCoord_idx1 _ hd.2.1 _ hk.2.1, gridCoord_idx1 _ hd.2.2 _ hk.2.2⟩

theorem gridK_onGrid (div p : Idx) (hd : 0 < div.1 ∧ 0 < div.2.1 ∧ 0 < div.2.2) : OnGrid div (gridK div p) := by
  have n1 : (div.1 : Rat) ≠ 0 := by exact_mod_cast hd.1.ne'
  have n2 : (div.2.1 : Rat) ≠ 0 := by exact_mod_cast hd.2.1.ne'
  have n3 : (div.2.2 : Rat) ≠ 0 := by exact_mod_cast hd.2.2.ne'
  unfold OnGrid gridK
  simp only
  refine ⟨⟨p.1, ?_⟩, ⟨p.2.1, ?_⟩, ⟨p.2.2, ?_⟩⟩ <;> push_cast <;> field_simp

/-! ### symmetric grids: the images of grid points stay on the grid -/

/-- one term of the image of a grid point: `p/d · a · dj` is an integer when `d ∣ a · dj` -/
theorem grid_term (p d dj : Nat) (a : Int) (hd : 0 < d) (h : (a * dj) % (d : Int) = 0) :
    IsIntR ((p : Rat) * (1 / d) * a * dj) := by
  obtain ⟨k, e⟩ := Int.dvd_of_emod_eq_zero h
  have q : (a : Rat) * dj = d * k := by exact_mod_cast e
  have n : (d : Rat) ≠ 0 := by exact_mod_cast hd.ne'
  refine ⟨p * k, ?_⟩
  rw [mul_assoc _ (a : Rat), q]; push_cast; field_simp

theorem coord_onGrid (p1 p2 p3 d1 d2 d3 dj : Nat) (a b c : Int) (sg : Rat) (hsg : IsIntR sg)
    (hd1 : 0 < d1) (hd2 : 0 < d2) (hd3 : 0 < d3)
    (h1 : (a * dj) % (d1 : Int) = 0) (h2 : (b * dj) % (d2 : Int) = 0) (h3 : (c * dj) % (d3 : Int) = 0) :
    IsIntR (((p1 : Rat) * (1 / d1) * a + (p2 : Rat) * (1 / d2) * b + (p3 : Rat) * (1 / d3) * c) * sg * dj) := by
  have := (((grid_term p1 d1 dj a hd1 h1).add (grid_term p2 d2 dj b hd2 h2)).add (grid_term p3 d3 dj c hd3 h3)).mul hsg
  convert this using 1; ring

/-- the executable symmetric-grid test implies that every operation maps grid points to grid points -/
theorem symmetricGrid_onGrid (syms : List Sym) (div : Idx) (hd : 0 < div.1 ∧ 0 < div.2.1 ∧ 0 < div.2.2)
    (hs : symmetricGrid syms div = true) (s : Sym) (hsm : s ∈ syms) (p : Idx) :
    OnGrid div (s.apply (gridK div p)) := by
  unfold symmetricGrid at hs
  rw [List.all_eq_true] at hs
  have h := hs s hsm
  simp only [Bool.and_eq_true, decide_eq_true_eq] at h
  obtain ⟨⟨⟨⟨⟨⟨⟨⟨a11, a12⟩, a13⟩, a21⟩, a22⟩, a23⟩, a31⟩, a32⟩, a33⟩ := h
  unfold OnGrid Sym.apply gridK
  simp only
  refine ⟨?_, ?_, ?_⟩
  · exact coord_onGrid p.1 p.2.1 p.2.2 div.1 div.2.1 div.2.2 div.1 s.m11 s.m21 s.m31 s.sign (sign_int s)
      hd.1 hd.2.1 hd.2.2 a11 a21 a31
  · exact coord_onGrid p.1 p.2.1 p.2.2 div.1 div.2.1 div.2.2 div.2.1 s.m12 s.m22 s.m32 s.sign (sign_int s)
      hd.1 hd.2.1 hd.2.2 a12 a22 a32
  · exact coord_onGrid p.1 p.2.1 p.2.2 div.1 div.2.1 div.2.2 div.2.2 s.m13 s.m23 s.m33 s.sign (sign_int s)
      hd.1 hd.2.1 hd.2.2 a13 a23 a33

/-! ### the de-duplication of `PointGroup.star` -/

theorem mem_dedupAux : ∀ (l seen : List V3) (v : V3), v ∈ dedupAux seen l → v ∈ l
  | [], _, v, h => by simp [dedupAux] at h
  | x :: rest, seen, v, h => by
    unfold dedupAux at h
    split at h
    · exact List.mem_cons_of_mem _ (mem_dedupAux rest _ v h)
    · rcases List.mem_cons.mp h with rfl | h
      · simp
      · exact List.mem_cons_of_mem _ (mem_dedupAux rest _ v h)

theorem dedupAux_rep : ∀ (l seen : List V3) (v : V3), v ∈ l →
    (∃ s ∈ seen, EqM s v) ∨ ∃ w ∈ dedupAux seen l, EqM w v
  | [], _, v, h => by simp at h
  | x :: rest, seen, v, h => by
    have hany : (seen.any fun s => eqMod1 s x) = true ↔ ∃ s ∈ seen, EqM s x := by
      simp only [List.any_eq_true, eqMod1_iff]
    rcases List.mem_cons.mp h with rfl | hv
    · by_cases hc : (seen.any fun s => eqMod1 s v) = true
      · left; exact hany.mp hc
      · right
        unfold dedupAux; rw [if_neg hc]
        exact ⟨v, by simp, EqM.refl v⟩
    · rcases dedupAux_rep rest (x :: seen) v hv with ⟨s, hs, hsv⟩ | ⟨w, hw, hwv⟩
      · rcases List.mem_cons.mp hs with rfl | hs
        · by_cases hc : (seen.any fun s' => eqMod1 s' s) = true
          · obtain ⟨s0, hs0, h0⟩ := hany.mp hc
            left; exact ⟨s0, hs0, h0.trans hsv⟩
          · right
            unfold dedupAux; rw [if_neg hc]
            exact ⟨s, by simp, hsv⟩
        · left; exact ⟨s, hs, hsv⟩
      · right
        unfold dedupAux
        split
        · exact ⟨w, hw, hwv⟩
        · exact ⟨w, List.mem_cons_of_mem _ hw, hwv⟩

theorem dedupAux_pairwise : ∀ (l seen : List V3),
    (dedupAux seen l).Pairwise (fun a b => ¬ EqM a b) ∧ ∀ w ∈ dedupAux seen l, ∀ s ∈ seen, ¬ EqM s w
  | [], _ => by simp [dedupAux]
  | x :: rest, seen => by
    obtain ⟨ih1, ih2⟩ := dedupAux_pairwise rest (x :: seen)
    unfold dedupAux
    split
    · exact ⟨ih1, fun w hw s hs => ih2 w hw s (List.mem_cons_of_mem _ hs)⟩
    · rename_i hc
      have hnot : ∀ s ∈ seen, ¬ EqM s x := by
        intro s hs he
        apply hc
        simp only [List.any_eq_true, eqMod1_iff]
        exact ⟨s, hs, he⟩
      refine ⟨List.pairwise_cons.mpr ⟨fun w hw => ih2 w hw x (by simp), ih1⟩, ?_⟩
      intro w hw s hs
      rcases List.mem_cons.mp hw with rfl | hw
      · exact hnot s hs
      · exact ih2 w hw s (List.mem_cons_of_mem _ hs)

/-! ### group hypotheses: what membership in a star means -/

/-- the list of operations is a group acting on reduced vectors, and maps the grid `div` into itself -/
structure GroupHyp (syms : List Sym) (div : Idx) : Prop where
  pos : 0 < div.1 ∧ 0 < div.2.1 ∧ 0 < div.2.2
  one : ∃ e ∈ syms, ∀ k : V3, e.apply k = k
  inv : ∀ s ∈ syms, ∃ t ∈ syms, ∀ k : V3, t.apply (s.apply k) = k
  mul : ∀ s ∈ syms, ∀ t ∈ syms, ∃ u ∈ syms, ∀ k : V3, u.apply k = t.apply (s.apply k)
  grid : symmetricGrid syms div = true

theorem mem_starIdx (syms : List Sym) (div : Idx) (hG : GroupHyp syms div) (p q : Idx) :
    q ∈ starIdx syms div p ↔ ∃ s ∈ syms, q = toIdx div (s.apply (gridK div p)) := by
  unfold starIdx star
  rw [List.mem_map]
  constructor
  · rintro ⟨v, hv, rfl⟩
    have := mem_dedupAux _ _ v hv
    obtain ⟨s, hs, rfl⟩ := List.mem_map.mp this
    exact ⟨s, hs, rfl⟩
  · rintro ⟨s, hs, rfl⟩
    have hmem : s.apply (gridK div p) ∈ syms.map fun s => s.apply (gridK div p) := List.mem_map.mpr ⟨s, hs, rfl⟩
    rcases dedupAux_rep _ [] _ hmem with ⟨s0, h0, _⟩ | ⟨w, hw, hwv⟩
    · simp at h0
    · refine ⟨w, hw, ?_⟩
      have hwl := mem_dedupAux _ _ w hw
      obtain ⟨s', hs', rfl⟩ := List.mem_map.mp hwl
      exact toIdx_congr div hwv (symmetricGrid_onGrid syms div hG.pos hG.grid s' hs' p)

/-- the image of grid point `p` under `s`, as a grid point, represents `s(K_p)` modulo lattice vectors -/
theorem act_rep (syms : List Sym) (div : Idx) (hG : GroupHyp syms div) (s : Sym) (hs : s ∈ syms) (p : Idx) :
    EqM (gridK div (toIdx div (s.apply (gridK div p)))) (s.apply (gridK div p)) :=
  gridK_toIdx div hG.pos _ (symmetricGrid_onGrid syms div hG.pos hG.grid s hs p)

/-- applying `t` to the grid point of `s(K_p)` or to `s(K_p)` itself gives the same grid index -/
theorem toIdx_apply_rep (syms : List Sym) (div : Idx) (hG : GroupHyp syms div) (s t : Sym) (hs : s ∈ syms) (ht : t ∈ syms)
    (p : Idx) :
    toIdx div (t.apply (gridK div (toIdx div (s.apply (gridK div p))))) = toIdx div (t.apply (s.apply (gridK div p))) :=
  toIdx_congr div (apply_EqM t (act_rep syms div hG s hs p)) (symmetricGrid_onGrid syms div hG.pos hG.grid t ht _)

/-! ### composition, `sameAct`, identity: what `groupCheck` tests, as statements about `apply` -/

theorem isgn_sq (s : Sym) : s.isgn * s.isgn = 1 := by
  unfold Sym.isgn
  cases s.tr <;> cases s.inv <;> simp

theorem comp_apply (s t : Sym) (k : V3) : (s.comp t).apply k = t.apply (s.apply k) := by
  have hc : (s.comp t).sign = 1 := by unfold Sym.sign Sym.comp; simp
  unfold Sym.apply
  rw [hc, sign_eq_isgn s, sign_eq_isgn t]
  unfold Sym.comp
  simp only [V3.mk.injEq]
  refine ⟨?_, ?_, ?_⟩ <;> push_cast <;> ring

theorem sameAct_apply (u v : Sym) (h : u.sameAct v = true) (k : V3) : u.apply k = v.apply k := by
  unfold Sym.sameAct at h
  simp only [Bool.and_eq_true, beq_iff_eq] at h
  obtain ⟨⟨⟨⟨⟨⟨⟨⟨a11, a12⟩, a13⟩, a21⟩, a22⟩, a23⟩, a31⟩, a32⟩, a33⟩ := h
  have c : ∀ {x y : Int}, x = y → (x : Rat) = (y : Rat) := fun h => by rw [h]
  have b11 := c a11; have b12 := c a12; have b13 := c a13
  have b21 := c a21; have b22 := c a22; have b23 := c a23
  have b31 := c a31; have b32 := c a32; have b33 := c a33
  push_cast at b11 b12 b13 b21 b22 b23 b31 b32 b33
  unfold Sym.apply
  rw [sign_eq_isgn u, sign_eq_isgn v]
  simp only [V3.mk.injEq]
  refine ⟨?_, ?_, ?_⟩
  · linear_combination k.x * b11 + k.y * b21 + k.z * b31
  · linear_combination k.x * b12 + k.y * b22 + k.z * b32
  · linear_combination k.x * b13 + k.y * b23 + k.z * b33

theorem idSym_apply (k : V3) : idSym.apply k = k := by
  unfold Sym.apply idSym Sym.sign
  simp

end WB.C06
