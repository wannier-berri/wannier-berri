/-
  C25 helper lemmas: entries of the strided (interlaced) assembly, the permutation `up m ↦ 2m`, `down m ↦ 2m+1`, and
  the Fourier-type sums of scatter-added arrays.
-/
import WB.Model.C25
import Mathlib.LinearAlgebra.Matrix.Defs
import Mathlib.Algebra.BigOperators.Ring.Finset
import Mathlib.Algebra.BigOperators.Group.Finset.Sigma
import Mathlib.Algebra.Group.Nat.Even

namespace WB.C25
open Matrix

/-- the `n×n` matrix with entries `X i j` -/
def toMat {K : Type} (n : Nat) (X : Nat → Nat → K) : Matrix (Fin n) (Fin n) K := Matrix.of fun i j => X i j

/-- `up m ↦ 2m`, `down m ↦ 2m+1` -/
def interleave (n : Nat) : Fin n ⊕ Fin n ≃ Fin (2 * n) where
  toFun x := match x with
    | Sum.inl m => ⟨2 * m.val, by omega⟩
    | Sum.inr m => ⟨2 * m.val + 1, by omega⟩
  invFun a := if a.val % 2 = 0 then Sum.inl ⟨a.val / 2, by omega⟩ else Sum.inr ⟨a.val / 2, by omega⟩
  left_inv x := by
    rcases x with m | m
    · have h : (2 * m.val) % 2 = 0 := by omega
      simp only [h, ↓reduceIte]
      congr 1; apply Fin.ext; simp
    · have h : ¬ ((2 * m.val + 1) % 2 = 0) := by omega
      simp only [h, ↓reduceIte]
      congr 1; apply Fin.ext; simp; omega
  right_inv a := by
    by_cases h : a.val % 2 = 0
    · simp only [h, ↓reduceIte]; apply Fin.ext; simp; omega
    · simp only [h, ↓reduceIte]; apply Fin.ext; simp; omega

variable {K : Type}

section entries
variable [OfNat K 0] (Hu Hd : Nat → Nat → K) (m n : Nat)

theorem assembleUD_ee : assembleUD Hu Hd (2 * m) (2 * n) = Hu m n := by
  simp [assembleUD, assignStrided]

theorem assembleUD_oo : assembleUD Hu Hd (2 * m + 1) (2 * n + 1) = Hd m n := by
  simp [assembleUD, assignStrided]

theorem assembleUD_eo : assembleUD Hu Hd (2 * m) (2 * n + 1) = 0 := by
  simp [assembleUD, assignStrided, zeroMat]

theorem assembleUD_oe : assembleUD Hu Hd (2 * m + 1) (2 * n) = 0 := by
  simp [assembleUD, assignStrided, zeroMat]

end entries

theorem doubleSpin_eq_assembleUD [OfNat K 0] (X : Nat → Nat → K) : doubleSpin X = assembleUD X X := rfl

/-! ### sums -/

theorem sumRange_eq_sum [AddCommMonoid K] (n : Nat) (f : Nat → K) :
    sumRange n f = ∑ i ∈ Finset.range n, f i := by
  induction n with
  | zero => simp [sumRange]
  | succ n ih => rw [sumRange, ih, Finset.sum_range_succ]

theorem rmap_length (merged l : List Vec3) : (rmap merged l).length = l.length := by simp [rmap]

theorem rmap_getD (merged l : List Vec3) (j : Nat) (hj : j < l.length) :
    (rmap merged l).getD j 0 = merged.idxOf (nthR l j) := by
  simp [rmap, nthR, List.getD_eq_getElem?_getD, hj]

theorem nthR_idxOf (merged : List Vec3) (R : Vec3) (h : R ∈ merged) : nthR merged (merged.idxOf R) = R := by
  have hlt : merged.idxOf R < merged.length := List.idxOf_lt_length_iff.2 h
  simp [nthR, List.getD_eq_getElem?_getD, hlt]

/-- the Fourier-type sum over the merged list of a scatter-added array = old sum + the sum over the source list -/
theorem kSum_scatterAdd [CommRing K] (χ : Vec3 → K) (merged l : List Vec3) (hsub : ∀ R ∈ l, R ∈ merged)
    (M X : Nat → K) :
    kSum χ merged (scatterAdd M (rmap merged l) X) = kSum χ merged M + kSum χ l X := by
  unfold kSum scatterAdd
  simp only [sumRange_eq_sum, rmap_length]
  simp only [mul_add, Finset.sum_add_distrib, Finset.mul_sum]
  congr 1
  rw [Finset.sum_comm]
  apply Finset.sum_congr rfl
  intro j hj
  have hj' : j < l.length := Finset.mem_range.1 hj
  have hmem : nthR l j ∈ merged := by
    apply hsub; simp [nthR, List.getD_eq_getElem?_getD, hj']
  rw [rmap_getD merged l j hj']
  have hlt : merged.idxOf (nthR l j) < merged.length := List.idxOf_lt_length_iff.2 hmem
  simp only [mul_ite, mul_zero, Finset.sum_ite_eq, Finset.mem_range, hlt, if_true, nthR_idxOf merged _ hmem]

theorem kSum_zero [CommRing K] (χ : Vec3 → K) (l : List Vec3) : kSum χ l (fun _ => (0 : K)) = 0 := by
  simp [kSum, sumRange_eq_sum]

theorem kSum_embedStrided [CommRing K] (χ : Vec3 → K) (l : List Vec3) (i : Nat) (X : Nat → Nat → Nat → K) (a b : Nat) :
    kSum χ l (fun j => embedStrided i (X j) a b) = embedStrided i (fun m n => kSum χ l (fun j => X j m n)) a b := by
  unfold embedStrided
  split
  · rfl
  · exact kSum_zero χ l

theorem embedStrided_add [CommRing K] (U D : Nat → Nat → Nat → Nat → K) (a b : Nat) :
    embedStrided 0 (U a b) a b + embedStrided 1 (D a b) a b
      = assembleUD (fun m n => U (2 * m) (2 * n) m n) (fun m n => D (2 * m + 1) (2 * n + 1) m n) a b := by
  obtain ⟨m, rfl | rfl⟩ := Nat.even_or_odd' a <;> obtain ⟨n, rfl | rfl⟩ := Nat.even_or_odd' b <;>
    simp [embedStrided, assembleUD, assignStrided, zeroMat]

end WB.C25
