/-
  C11 helper lemmas: `np.sort` and `chooseIter`, the factors files, K_list.pickle and the pass `i_iter = 0`.
-/
import WB.Model.C11
import WB.Lemmas.C10
import Mathlib.Data.List.Sort

namespace WB.C11
open WB.C10

variable {K : Type}

/-! ### `np.sort` and `chooseIter` -/

/-- `np.sort` of the model is Mathlib's insertion sort -/
theorem sortNat_eq_insertionSort (l : List Nat) : sortNat l = l.insertionSort (· ≤ ·) := by
  have h : insertNat = List.orderedInsert (· ≤ ·) := by
    funext a l
    induction l with
    | nil => rfl
    | cons b l ih => rw [insertNat, ih, List.orderedInsert_cons]
  rw [sortNat, h]; rfl

theorem sortNat_perm (l : List Nat) : (sortNat l).Perm l :=
  sortNat_eq_insertionSort l ▸ List.perm_insertionSort _ l

theorem sortNat_pairwise (l : List Nat) : (sortNat l).Pairwise (fun a b => a ≤ b) :=
  sortNat_eq_insertionSort l ▸ List.pairwise_insertionSort _ l

theorem sortNat_eq_of_perm {l1 l2 : List Nat} (h : l1.Perm l2) : sortNat l1 = sortNat l2 := by
  apply List.Perm.eq_of_pairwise (le := fun a b : Nat => a ≤ b)
  · intro a b _ _ h1 h2; omega
  · exact sortNat_pairwise l1
  · exact sortNat_pairwise l2
  · exact (sortNat_perm l1).trans (h.trans (sortNat_perm l2).symm)

theorem le_getLast_of_sorted (l : List Nat) (hs : l.Pairwise (fun a b => a ≤ b)) (last : Nat)
    (h : l.getLast? = some last) : ∀ x ∈ l, x ≤ last := by
  obtain ⟨ys, rfl⟩ := List.getLast?_eq_some_iff.1 h
  intro x hx
  rcases List.mem_append.1 hx with hx | hx
  · exact (List.pairwise_append.1 hs).2.2 x hx last (List.mem_singleton_self _)
  · exact Nat.le_of_eq (List.mem_singleton.1 hx)

theorem sortNat_getLast {l : List Nat} {m : Nat} (hm : m ∈ l) (hmax : ∀ x ∈ l, x ≤ m) :
    (sortNat l).getLast? = some m := by
  have hmem : m ∈ sortNat l := (sortNat_perm l).mem_iff.2 hm
  cases hl : (sortNat l).getLast? with
  | none =>
    rw [List.getLast?_eq_none_iff] at hl
    rw [hl] at hmem; cases hmem
  | some last =>
    have h1 := le_getLast_of_sorted _ (sortNat_pairwise l) last hl m hmem
    have h2 : last ∈ l := (sortNat_perm l).mem_iff.1 (List.mem_of_getLast? hl)
    have := hmax last h2
    congr 1; omega

theorem chooseIter_latest {l : List Nat} {m : Nat} (hm : m ∈ l) (hmax : ∀ x ∈ l, x ≤ m) :
    chooseIter true l (-1) = some m := by
  unfold chooseIter
  simp only [show ¬ (0 : Int) ≤ -1 by omega, if_false, if_true]
  rw [sortNat_getLast hm hmax]
  have hmem : m ∈ sortNat l := (sortNat_perm l).mem_iff.2 hm
  simp only
  have e : ((m : Int) + -1 + 1) = (m : Int) := by omega
  rw [e]
  simp only [show ¬ ((m : Int) < 0) by omega, if_false, Int.toNat_natCast]
  rw [if_pos (by simpa using hmem)]

/-! ### factors files -/

theorem readFile_of_mem (facs : List (Nat × List K)) (i : Nat) (c : List K)
    (hn : (facs.map (·.1)).Nodup) (h : (i, c) ∈ facs) : readFile facs i = some c := by
  unfold readFile
  cases hf : facs.find? (fun e => e.1 == i) with
  | none => simpa using List.find?_eq_none.1 hf _ h
  | some e =>
    rw [List.inj_on_of_nodup_map hn (List.mem_of_find?_eq_some hf) h (by simpa using List.find?_some hf)]
    rfl

theorem mem_of_readFile {facs : List (Nat × List K)} {i : Nat} {c : List K} (h : readFile facs i = some c) :
    (i, c) ∈ facs := by
  obtain ⟨e, hf, rfl⟩ := Option.map_eq_some_iff.1 h
  have h1 : e.1 = i := by simpa using List.find?_some hf
  exact h1 ▸ List.mem_of_find?_eq_some hf

theorem readFile_perm {f1 f2 : List (Nat × List K)} (h : f1.Perm f2) (hn : (f1.map (·.1)).Nodup) (i : Nat) :
    readFile f1 i = readFile f2 i := by
  have hn2 : (f2.map (·.1)).Nodup := (h.map _).nodup_iff.1 hn
  apply Option.ext
  intro c
  exact ⟨fun h1 => readFile_of_mem f2 i c hn2 (h.mem_iff.1 (mem_of_readFile h1)),
    fun h2 => readFile_of_mem f1 i c hn (h.mem_iff.2 (mem_of_readFile h2))⟩

theorem writeFile_same {facs : List (Nat × List K)} {i : Nat} {c : List K}
    (hn : (facs.map (·.1)).Nodup) (h : (i, c) ∈ facs) : writeFile facs i c = facs := by
  unfold writeFile
  rw [if_pos (List.any_eq_true.2 ⟨(i, c), h, by simp⟩)]
  conv_rhs => rw [← List.map_id facs]
  apply List.map_congr_left
  intro e he
  split
  · rename_i hei
    exact (List.inj_on_of_nodup_map hn he h (by simpa using hei)).symm
  · rfl

theorem writeFile_perm {f1 f2 : List (Nat × List K)} (h : f1.Perm f2) (i : Nat) (c : List K) :
    (writeFile f1 i c).Perm (writeFile f2 i c) := by
  unfold writeFile
  have hany : f1.any (fun e => e.1 == i) = f2.any (fun e => e.1 == i) := by
    rw [Bool.eq_iff_iff, List.any_eq_true, List.any_eq_true]
    exact ⟨fun ⟨e, he, hp⟩ => ⟨e, h.mem_iff.1 he, hp⟩, fun ⟨e, he, hp⟩ => ⟨e, h.mem_iff.2 he, hp⟩⟩
  rw [hany]
  split
  · exact h.map _
  · exact h.append_right _

/-- the facts about the factors files that a run maintains -/
structure FacsOK (facs : List (Nat × List K)) (iter : Nat) (factors : List K) : Prop where
  nodup : (facs.map (·.1)).Nodup
  le : ∀ e ∈ facs, e.1 ≤ iter
  cur : readFile facs iter = some factors

theorem facsOK_perm {f1 f2 : List (Nat × List K)} (h : f1.Perm f2) {iter : Nat} {factors : List K}
    (ok : FacsOK f1 iter factors) : FacsOK f2 iter factors :=
  ⟨(h.map _).nodup_iff.1 ok.nodup, fun e he => ok.le e (h.mem_iff.2 he), readFile_perm h ok.nodup iter ▸ ok.cur⟩

theorem facsOK_write {facs : List (Nat × List K)} {iter : Nat} {factors : List K} (ok : FacsOK facs iter factors)
    (c : List K) : FacsOK (writeFile facs (iter + 1) c) (iter + 1) c := by
  have hnot : facs.any (fun e => e.1 == iter + 1) = false := by
    rw [List.any_eq_false]
    intro e he
    have := ok.le e he
    simp only [beq_iff_eq]; omega
  unfold writeFile
  rw [hnot]
  simp only [Bool.false_eq_true, if_false]
  have hn : ((facs ++ [(iter + 1, c)]).map (·.1)).Nodup := by
    rw [List.map_append, List.map_cons, List.map_nil]
    refine List.Nodup.append ok.nodup (List.nodup_singleton _) ?_
    intro x hx hx2
    obtain ⟨e, he, rfl⟩ := List.mem_map.1 hx
    have := ok.le e he
    simp only [List.mem_singleton] at hx2
    omega
  refine ⟨hn, ?_, readFile_of_mem _ _ _ hn (by simp)⟩
  intro e he
  rcases List.mem_append.1 he with he | he
  · have := ok.le e he; omega
  · simp only [List.mem_singleton] at he; rw [he]

/-! ### K_list.pickle (compared with the K-point list by `Refined`, Lemmas/C10) and the pass `i_iter = 0` -/

theorem setFactors_of_refined [Zero K] {as ps : List (KP K)} (h : Refined as ps) (hev : ∀ p ∈ ps, p.ev = true) :
    setFactors as (ps.map (·.f)) = ps := by
  induction as generalizing ps with
  | nil =>
    cases ps with
    | nil => rfl
    | cons p _ => have := h.1; rw [hev p (List.mem_cons_self ..)] at this; cases this
  | cons a as ih =>
    cases ps with
    | nil => exact h.elim
    | cons p ps => rw [List.map_cons, setFactors, h.1.1, ih h.2 fun q hq => hev q (List.mem_cons_of_mem _ hq)]

section field
variable [Field K]

theorem sumAll_of_stored (ps : List (KP K)) (h : ∀ p ∈ ps, p.ev = true ∧ getResult p = some p.r) :
    sumAll ps = some (wsum ps) := by
  induction ps with
  | nil => rfl
  | cons p ps ih =>
    simp only [sumAll, (h p (List.mem_cons_self ..)).2, ih fun q hq => h q (List.mem_cons_of_mem _ hq), wsum]
    congr 1; ring

theorem corrSum_self [DecidableEq K] (ps : List (KP K)) : corrSum keepNew ps (ps.map (·.f)) = some 0 := by
  induction ps with
  | nil => rfl
  | cons p ps ih =>
    simp only [List.map_cons, corrSum, sub_self, keepNew]
    simp only [ne_eq, not_true_eq_false, decide_false, Bool.false_eq_true, if_false]
    exact ih

theorem synced_state_eq {s : State K} (h : Synced s) :
    s = ⟨s.pts, s.pts.map (·.f), some (wsum s.pts), s.mode, s.err⟩ := by
  obtain ⟨pts, factors, resultAll, mode, err⟩ := s
  have h1 := h.factors
  have h2 := h.sum
  simp only at h1 h2
  rw [h1, h2]

/-- the pass `i_iter = 0` of a restarted run changes nothing -/
theorem iterate_synced_id [DecidableEq K] (s : State K) (h : Synced s) : iterate keepNew s = s := by
  have hev : ∀ p ∈ s.pts, p.ev = true := fun p hp => (h.stored p hp).1
  rw [iterate_some keepNew h.sum (by rw [map_procPt_all_ev _ _ hev, h.factors]; exact corrSum_self _),
    map_procPt_all_ev _ _ hev, unevSum_all_ev _ hev, add_zero, add_zero]
  exact (synced_state_eq h).symm

end field

end WB.C11
