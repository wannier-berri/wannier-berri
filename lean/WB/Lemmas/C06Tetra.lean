/-
  C06 helper lemmas: tetrahedra (`mkTet`, the determinant of a vertex quadruple and the volume of the pieces of an edge
  split, weights of the starting set, the break test of the split loops, the split loop and its fuel).
-/
import WB.Lemmas.C06Sum
import Mathlib.Tactic.Linarith

namespace WB.C06

theorem absR_nonneg (r : Rat) : 0 ≤ absR r := by
  unfold absR; split <;> linarith

theorem absR_neg (r : Rat) : absR (-r) = absR r := by
  unfold absR
  split <;> split <;> linarith

theorem absR_div_pos (r c : Rat) (hc : 0 < c) : absR (r / c) = absR r / c := by
  unfold absR
  by_cases h : r < 0
  · have : r / c < 0 := div_neg_of_neg_of_pos h hc
    rw [if_pos h, if_pos this]; ring
  · have : ¬ r / c < 0 := not_lt.mpr (div_nonneg (not_lt.mp h) hc.le)
    rw [if_neg h, if_neg this]

theorem absR_eq_zero (r : Rat) : absR r = 0 ↔ r = 0 := by
  unfold absR
  constructor
  · intro h; split at h <;> linarith
  · intro h; rw [h]; simp

/-- the volume does not depend on the origin: `mkTet` stores the vertices relative to their centre -/
theorem mkTet_volume (v0 v1 v2 v3 K : V3) (f : Rat) (l s : Nat) :
    (mkTet v0 v1 v2 v3 K f l s).volume = volume4 v0 v1 v2 v3 := by
  unfold Tet.volume mkTet volume4 det3 V3.sub V3.smul V3.add
  simp only
  congr 2
  ring

theorem mkTet_factor (v0 v1 v2 v3 K : V3) (f : Rat) (l s : Nat) : (mkTet v0 v1 v2 v3 K f l s).factor = f := rfl

theorem mkTet_absVert (v0 v1 v2 v3 K : V3) (f : Rat) (l s : Nat) :
    (mkTet v0 v1 v2 v3 K f l s).absVert 0 = K.add v0 ∧ (mkTet v0 v1 v2 v3 K f l s).absVert 1 = K.add v1 ∧
    (mkTet v0 v1 v2 v3 K f l s).absVert 2 = K.add v2 ∧ (mkTet v0 v1 v2 v3 K f l s).absVert 3 = K.add v3 := by
  unfold Tet.absVert mkTet Tet.vert V3.sub V3.smul V3.add
  refine ⟨?_, ?_, ?_, ?_⟩ <;> simp only [V3.mk.injEq] <;> refine ⟨?_, ?_, ?_⟩ <;> ring

/-! ### quadruples of vertices; the vertex order used by `divideTet` -/

abbrev Quad := V3 × V3 × V3 × V3

/-- piece `i` of the split of edge (a, b) = (third, fourth vertex) into `n` parts -/
def pieceQ (q : Quad) (n i : Nat) : Quad :=
  (q.1, q.2.1,
   q.2.2.1.add (V3.smul (i : Rat) (V3.smul (1 / (n : Rat)) (q.2.2.2.sub q.2.2.1))),
   q.2.2.1.add (V3.smul ((i : Rat) + 1) (V3.smul (1 / (n : Rat)) (q.2.2.2.sub q.2.2.1))))

/-- the parent's vertices in the order (off-edge, off-edge, edge start, edge end) of edge `e` -/
def quadOf (t : Tet) (e : Nat) : Quad :=
  (t.vert (edgeComp e).1, t.vert (edgeComp e).2, t.vert (edgeEnds e).1, t.vert (edgeEnds e).2)

/-- six times the signed volume -/
def detQ (q : Quad) : Rat := det3 (q.2.1.sub q.1) (q.2.2.1.sub q.1) (q.2.2.2.sub q.1)

theorem volume4_eq_detQ (q : Quad) : volume4 q.1 q.2.1 q.2.2.1 q.2.2.2 = absR (detQ q) / 6 := rfl

theorem detQ_pieceQ (q : Quad) (n i : Nat) : detQ (pieceQ q n i) = detQ q / n := by
  simp only [detQ, pieceQ, det3, V3.sub, V3.add, V3.smul]
  ring

theorem detQ_quadOf (t : Tet) (e : Nat) :
    detQ (quadOf t e) = detQ (t.v0, t.v1, t.v2, t.v3) ∨ detQ (quadOf t e) = -detQ (t.v0, t.v1, t.v2, t.v3) := by
  rcases e with _ | _ | _ | _ | _ | e
  case succ.succ.succ.succ.succ => exact Or.inl rfl
  all_goals simp only [detQ, quadOf, edgeEnds, edgeComp, Tet.vert, det3, V3.sub]
  · left; ring1
  · right; ring1
  · left; ring1
  · left; ring1
  · right; ring1

theorem volume4_pieceQ (q : Quad) (n i : Nat) (hn : 0 < n) :
    volume4 (pieceQ q n i).1 (pieceQ q n i).2.1 (pieceQ q n i).2.2.1 (pieceQ q n i).2.2.2 =
      volume4 q.1 q.2.1 q.2.2.1 q.2.2.2 / n := by
  rw [volume4_eq_detQ, volume4_eq_detQ, detQ_pieceQ q n i, absR_div_pos _ _ (by exact_mod_cast hn)]
  ring

theorem volume4_quadOf (t : Tet) (e : Nat) :
    volume4 (quadOf t e).1 (quadOf t e).2.1 (quadOf t e).2.2.1 (quadOf t e).2.2.2 = t.volume := by
  rw [volume4_eq_detQ]
  rcases detQ_quadOf t e with h | h <;> rw [h]
  · rfl
  · rw [absR_neg]; rfl

theorem divideTet_mem (t : Tet) (e n : Nat) (r : Bool) (c : Tet) (hc : c ∈ divideTet t e n r) (hn : 0 < n) :
    c.volume = t.volume / n ∧ c.factor = t.factor / n := by
  obtain ⟨i, _, rfl⟩ := List.mem_map.mp hc
  exact ⟨(mkTet_volume ..).trans ((volume4_pieceQ (quadOf t e) n i hn).trans (by rw [volume4_quadOf])), rfl⟩

theorem divideTet_length (t : Tet) (e n : Nat) (r : Bool) : (divideTet t e n r).length = n := by
  unfold divideTet; simp

theorem divideTet_totals (t : Tet) (e n : Nat) (r : Bool) (hn : 0 < n) :
    tetTotalW (divideTet t e n r) = t.factor ∧ tetTotalVol (divideTet t e n r) = t.volume := by
  have hn' : (n : Rat) ≠ 0 := by exact_mod_cast hn.ne'
  unfold tetTotalW tetTotalVol
  rw [sum_map_const _ (t.factor / n) _ (fun c hc => (divideTet_mem t e n r c hc hn).2),
    sum_map_const _ (t.volume / n) _ (fun c hc => (divideTet_mem t e n r c hc hn).1), divideTet_length]
  constructor <;> field_simp

theorem tetTotals_append (a b : List Tet) :
    tetTotalW (a ++ b) = tetTotalW a + tetTotalW b ∧ tetTotalVol (a ++ b) = tetTotalVol a + tetTotalVol b := by
  unfold tetTotalW tetTotalVol; simp

theorem splitPass_totals (sel : Tet → Bool) (edge : Tet → Nat) (l : List Tet) :
    tetTotalW (splitPass sel edge l) = tetTotalW l ∧ tetTotalVol (splitPass sel edge l) = tetTotalVol l := by
  induction l with
  | nil => exact ⟨rfl, rfl⟩
  | cons t l ih =>
    have hc : splitPass sel edge (t :: l) = (if sel t then divideTet t (edge t) 2 false else [t]) ++ splitPass sel edge l := by
      unfold splitPass; simp
    have h1 : tetTotalW (t :: l) = t.factor + tetTotalW l := by unfold tetTotalW; simp
    have h2 : tetTotalVol (t :: l) = t.volume + tetTotalVol l := by unfold tetTotalVol; simp
    rw [hc, (tetTotals_append _ _).1, (tetTotals_append _ _).2, ih.1, ih.2, h1, h2]
    split
    · obtain ⟨a, b⟩ := divideTet_totals t (edge t) 2 false (by norm_num)
      rw [a, b]; exact ⟨rfl, rfl⟩
    · constructor
      · unfold tetTotalW; simp
      · unfold tetTotalVol; simp

/-! ### the starting set -/

theorem sum_map_div (c : Rat) : ∀ l : List Rat, (l.map fun v => v / c).sum = l.sum / c
  | [] => by simp
  | x :: l => by simp only [List.map_cons, List.sum_cons]; rw [sum_map_div c l]; ring

theorem initTets_factors (verts : List Quad) (ws : List Rat) (h : ws.length = verts.length) :
    ((verts.zip ws).map fun p => (mkTet p.1.1 p.1.2.1 p.1.2.2.1 p.1.2.2.2 V3.zero p.2 0 0).factor) = ws :=
  (List.map_congr_left fun _ _ => rfl).trans (List.map_snd_zip (by omega))

/-! ### the break test of the split loops -/

theorem foldl_max_le (v : Rat) : ∀ (l : List Rat) (m : Rat),
    l.foldl (fun m x => if x > m then x else m) m ≤ v ↔ m ≤ v ∧ ∀ x ∈ l, x ≤ v
  | [], m => by simp
  | x :: l, m => by
    have : (if x > m then x else m) = max m x := by rw [max_def]; split_ifs <;> linarith
    simp only [List.foldl_cons, List.mem_cons, forall_eq_or_imp, this, foldl_max_le v l, max_le_iff, and_assoc]

theorem maxOf_le_iff (l : List Rat) (v : Rat) (hv : 0 ≤ v) : maxOf l ≤ v ↔ ∀ x ∈ l, x ≤ v := by
  unfold maxOf
  rw [foldl_max_le]
  cases l with
  | nil => simpa using hv
  | cons x l =>
    simp only [List.headD_cons, List.mem_cons, forall_eq_or_imp]
    tauto

theorem stop_iff (f : Tet → Rat) (thr : Rat) (hthr : 0 ≤ thr) (l : List Tet) :
    decide (maxOf (l.map f) ≤ thr) = true ↔ ∀ t ∈ l, f t ≤ thr := by
  rw [decide_eq_true_iff, maxOf_le_iff _ _ hthr]
  simp only [List.mem_map, forall_exists_index, and_imp, forall_apply_eq_imp_iff₂]

theorem splitPass_none (sel : Tet → Bool) (edge : Tet → Nat) :
    ∀ l : List Tet, (∀ t ∈ l, sel t = false) → splitPass sel edge l = l
  | [], _ => rfl
  | t :: l, h => by
    have ht := h t (by simp)
    have hl := splitPass_none sel edge l (fun u hu => h u (by simp [hu]))
    unfold splitPass at hl ⊢
    simp only [List.flatMap_cons, ht, Bool.false_eq_true, ↓reduceIte, hl, List.singleton_append]

theorem mem_splitPass (sel : Tet → Bool) (edge : Tet → Nat) (l : List Tet) (c : Tet) :
    c ∈ splitPass sel edge l ↔
      ∃ t ∈ l, (sel t = true ∧ c ∈ divideTet t (edge t) 2 false) ∨ (sel t = false ∧ c = t) := by
  unfold splitPass
  simp only [List.mem_flatMap]
  refine exists_congr fun t => and_congr_right fun _ => ?_
  cases sel t <;> simp

/-! ### the split loop and its fuel -/

section
variable (stop : List Tet → Bool) (sel : Tet → Bool) (edge : Tet → Nat)

theorem splitLoop_of_stop (d : Nat) (l : List Tet) (h : stop l = true) : splitLoop stop sel edge d l = l := by
  cases d with
  | zero => rfl
  | succ d => rw [splitLoop, if_pos h]

theorem splitLoop_succ (a : Nat) (l : List Tet) (h : ¬ stop l = true) :
    splitLoop stop sel edge (a + 1) l = splitLoop stop sel edge a (splitPass sel edge l) := by
  rw [splitLoop, if_neg h]

/-- running `a + b` passes is running `a` passes and then `b` more (the loop stays where it has stopped) -/
theorem splitLoop_add : ∀ (a b : Nat) (l : List Tet),
    splitLoop stop sel edge (a + b) l = splitLoop stop sel edge b (splitLoop stop sel edge a l)
  | 0, b, l => by rw [Nat.zero_add]; rfl
  | a + 1, b, l => by
    rw [Nat.add_right_comm]
    by_cases h : stop l = true
    · rw [splitLoop_of_stop stop sel edge _ l h, splitLoop_of_stop stop sel edge _ l h,
        splitLoop_of_stop stop sel edge _ l h]
    · rw [splitLoop_succ stop sel edge _ l h, splitLoop_succ stop sel edge _ l h, splitLoop_add a b]

/-- after `a` units of fuel the loop has either stopped or made exactly `a` passes -/
theorem splitLoop_iterate : ∀ (a : Nat) (l : List Tet),
    stop (splitLoop stop sel edge a l) = true ∨ splitLoop stop sel edge a l = (splitPass sel edge)^[a] l
  | 0, l => Or.inr rfl
  | a + 1, l => by
    by_cases h : stop l = true
    · left; rw [splitLoop_of_stop stop sel edge _ l h]; exact h
    · rw [splitLoop_succ stop sel edge _ l h, Function.iterate_succ_apply]
      exact splitLoop_iterate a (splitPass sel edge l)

end

/-- the split loop ends when passes contract: if `m` passes of the splitting rule bring every value of the measure `μ`
    from below `B` to below `B / c` (or below the threshold), lists with `μ ≤ c^n · thr` are finished after `m n + 1`
    units of fuel -/
theorem splitLoop_done (μ : Tet → Rat) (thr : Rat) (hthr : 0 < thr) (edge : Tet → Nat) (c : Rat) (hc : 1 ≤ c) (m : Nat)
    (hcontr : ∀ (B : Rat) (l : List Tet), (∀ t ∈ l, μ t ≤ B) →
      ∀ t ∈ (splitPass (fun t => decide (μ t > thr)) edge)^[m] l, μ t ≤ max thr (B / c)) :
    ∀ (n : Nat) (l : List Tet), (∀ t ∈ l, μ t ≤ c ^ n * thr) →
      ∀ t ∈ splitLoop (fun l => decide (maxOf (l.map μ) ≤ thr)) (fun t => decide (μ t > thr)) edge (m * n + 1) l,
        μ t ≤ thr := by
  have hstop := stop_iff μ thr hthr.le
  have hc0 : c ≠ 0 := (one_pos.trans_le hc).ne'
  intro n
  induction n with
  | zero =>
    intro l hl
    have : ∀ t ∈ l, μ t ≤ thr := fun t ht => by simpa using hl t ht
    rw [Nat.mul_zero, Nat.zero_add, splitLoop_of_stop _ _ _ _ l ((hstop l).mpr this)]
    exact this
  | succ n ih =>
    intro l hl
    rw [show m * (n + 1) + 1 = m + (m * n + 1) by ring, splitLoop_add]
    apply ih
    have hn : thr ≤ c ^ n * thr := le_mul_of_one_le_left hthr.le (one_le_pow₀ hc)
    rcases splitLoop_iterate (fun l => decide (maxOf (l.map μ) ≤ thr)) (fun t => decide (μ t > thr)) edge m l with h | h
    · exact fun t ht => ((hstop _).mp h t ht).trans hn
    · rw [h]
      intro t ht
      refine (hcontr (c ^ (n + 1) * thr) l hl t ht).trans (max_le hn (le_of_eq ?_))
      rw [pow_succ]; field_simp

end WB.C06
