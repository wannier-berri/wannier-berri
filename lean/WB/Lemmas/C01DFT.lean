/-
  C01 — the FFT contract is satisfied by the mathematical DFT on the mesh box, for every mesh, in every field that
  contains primitive roots of unity of the three mesh orders (ℂ in particular).  So `roundtrip` is unconditional for the
  exact discrete Fourier transform; what remains trusted is that numpy / FFTW compute that transform.
-/
import WB.Lemmas.C01Fourier
import Mathlib.RingTheory.RootsOfUnity.PrimitiveRoots
import Mathlib.Algebra.Ring.GeomSum
import Mathlib.Algebra.BigOperators.Intervals

/-! ### one dimension: orthogonality of the characters of ℤ/N, from Mathlib's primitive roots -/

namespace WB.DFT
open Finset

variable {K : Type*} [Field K]

theorem sum_zpow_pow (N : ℕ) (ζ : K) (hζ : IsPrimitiveRoot ζ N) (d : ℤ) :
    ∑ q ∈ range N, (ζ ^ d) ^ q = if (N : ℤ) ∣ d then (N : K) else 0 := by
  split_ifs with h
  · have h1 : ζ ^ d = 1 := (hζ.zpow_eq_one_iff_dvd d).2 h
    simp only [h1, one_pow, sum_const, card_range, nsmul_eq_mul, mul_one]
  · have h1 : ζ ^ d ≠ 1 := fun e => h ((hζ.zpow_eq_one_iff_dvd d).1 e)
    have h2 : (ζ ^ d) ^ N = 1 := by
      rw [← zpow_natCast, ← zpow_mul, mul_comm, zpow_mul, zpow_natCast, hζ.pow_eq_one, one_zpow]
    have h3 := geom_sum_mul (ζ ^ d) N
    rw [h2, sub_self] at h3
    exact (mul_eq_zero.mp h3).resolve_right (sub_ne_zero_of_ne h1)

/-- orthogonality of the characters of ℤ/N, with integer labels `0 ≤ a, s < N` -/
theorem orthogonality (N : ℕ) (ζ : K) (hζ : IsPrimitiveRoot ζ N) (a s : ℤ)
    (ha0 : 0 ≤ a) (ha : a < N) (hs0 : 0 ≤ s) (hs : s < N) :
    ∑ c ∈ range N, ζ ^ (a * (c : ℤ)) * (ζ ^ (s * (c : ℤ)))⁻¹ = if a = s then (N : K) else 0 := by
  have hz : ζ ≠ 0 := hζ.ne_zero (by omega)
  have hpow : ∀ c : ℕ, ζ ^ (a * (c : ℤ)) * (ζ ^ (s * (c : ℤ)))⁻¹ = (ζ ^ (a - s)) ^ c := fun c => by
    rw [← zpow_neg, ← zpow_add₀ hz, ← zpow_natCast, ← zpow_mul]
    congr 1; ring
  -- two labels in `[0, N)` that differ by a multiple of `N` are equal
  have hdvd : (N : ℤ) ∣ a - s ↔ a = s :=
    ⟨fun h => sub_eq_zero.1 (Int.eq_zero_of_abs_lt_dvd h (abs_lt.2 ⟨by omega, by omega⟩)), fun h => h ▸ by simp⟩
  simp_rw [hpow, sum_zpow_pow N ζ hζ, hdvd]

/-- **DFT inversion in one dimension.**  `a(c) = N⁻¹ Σ_q ζ^{-qc} Σ_{c'} ζ^{qc'} a(c')`. -/
theorem inversion1 (N : ℕ) (ζ : K) (hζ : IsPrimitiveRoot ζ N) (hN : (N : K) ≠ 0)
    (a : ℕ → K) (c : ℕ) (hc : c < N) :
    (N : K)⁻¹ * ∑ q ∈ range N, ζ ^ (-((q : ℤ) * c)) * ∑ c' ∈ range N, ζ ^ ((q : ℤ) * c') * a c' = a c := by
  have key : ∀ c' ∈ range N,
      ∑ q ∈ range N, ζ ^ (-((q : ℤ) * c)) * (ζ ^ ((q : ℤ) * c') * a c')
        = (if c' = c then (N : K) else 0) * a c' := by
    intro c' hc'
    have := orthogonality N ζ hζ c' c (by omega) (by exact_mod_cast mem_range.mp hc') (by omega) (by exact_mod_cast hc)
    simp only [Nat.cast_inj] at this
    rw [← this, Finset.sum_mul]
    refine Finset.sum_congr rfl fun q _ => ?_
    rw [zpow_neg, mul_comm (q : ℤ) c, mul_comm (q : ℤ) c']
    ring
  rw [inv_mul_eq_iff_eq_mul₀ hN]
  simp_rw [Finset.mul_sum]
  rw [Finset.sum_comm, Finset.sum_congr rfl key]
  simp only [ite_mul, zero_mul]
  rw [Finset.sum_ite_eq' (range N) c, if_pos (mem_range.mpr hc)]

end WB.DFT

/-! ### the mesh box -/

namespace WB.C01
open WB.C02 (boxChar)

section
variable {K : Type} [Field K]

theorem sumK_range_map (f : Nat → K) (n : Nat) :
    sumK ((List.range n).map f) = ∑ i ∈ Finset.range n, f i := by
  induction n with
  | zero => rfl
  | succ n ih =>
    rw [List.range_succ, List.map_append, sumK_append, ih, Finset.sum_range_succ]
    exact congrArg _ (add_zero _)

theorem sumK_gridPoints (mp : Mesh) (f : Vec3 → K) :
    sumK ((gridPoints mp).map f)
      = ∑ i ∈ Finset.range mp.1, ∑ j ∈ Finset.range mp.2.1, ∑ k ∈ Finset.range mp.2.2, f ((i : Int), (j : Int), (k : Int)) := by
  unfold gridPoints
  rw [sumK_flatMap, sumK_range_map]
  refine Finset.sum_congr rfl fun i _ => ?_
  rw [sumK_flatMap, sumK_range_map]
  refine Finset.sum_congr rfl fun j _ => ?_
  rw [List.map_map, sumK_range_map]
  rfl

theorem sumK_gridPoints_mul (mp : Mesh) (F G H : Int → K) :
    sumK ((gridPoints mp).map fun c => F c.1 * (G c.2.1 * H c.2.2))
      = (∑ i ∈ Finset.range mp.1, F i) * ((∑ j ∈ Finset.range mp.2.1, G j) * ∑ k ∈ Finset.range mp.2.2, H k) := by
  rw [sumK_gridPoints]
  simp_rw [← Finset.mul_sum, ← Finset.sum_mul]

theorem boxChar_mul_inv (ζ : K × K × K) (a s c : Vec3) :
    boxChar ζ a c * (boxChar ζ s c)⁻¹ = (ζ.1 ^ (a.1 * c.1) * (ζ.1 ^ (s.1 * c.1))⁻¹)
      * ((ζ.2.1 ^ (a.2.1 * c.2.1) * (ζ.2.1 ^ (s.2.1 * c.2.1))⁻¹) * (ζ.2.2 ^ (a.2.2 * c.2.2) * (ζ.2.2 ^ (s.2.2 * c.2.2))⁻¹)) := by
  rw [boxChar, boxChar, mul_inv, mul_inv, mul_mul_mul_comm, mul_mul_mul_comm (ζ.1 ^ _), mul_assoc]

theorem boxChar_orth (ζ : K × K × K) (mp : Mesh)
    (z1 : IsPrimitiveRoot ζ.1 mp.1) (z2 : IsPrimitiveRoot ζ.2.1 mp.2.1) (z3 : IsPrimitiveRoot ζ.2.2 mp.2.2)
    (a s : Vec3) (ha : a ∈ gridPoints mp) (hs : s ∈ gridPoints mp) :
    sumK ((gridPoints mp).map fun c => boxChar ζ a c * (boxChar ζ s c)⁻¹)
      = if a = s then ((mp.1 * mp.2.1 * mp.2.2 : Nat) : K) else 0 := by
  obtain ⟨⟨a1, a2⟩, ⟨a3, a4⟩, a5, a6⟩ := (mem_gridPoints mp a).1 ha
  obtain ⟨⟨s1, s2⟩, ⟨s3, s4⟩, s5, s6⟩ := (mem_gridPoints mp s).1 hs
  simp only [boxChar_mul_inv]
  rw [sumK_gridPoints_mul mp (fun c => ζ.1 ^ (a.1 * c) * (ζ.1 ^ (s.1 * c))⁻¹) (fun c => ζ.2.1 ^ (a.2.1 * c) * (ζ.2.1 ^ (s.2.1 * c))⁻¹)
      (fun c => ζ.2.2 ^ (a.2.2 * c) * (ζ.2.2 ^ (s.2.2 * c))⁻¹),
    WB.DFT.orthogonality mp.1 ζ.1 z1 a.1 s.1 a1 a2 s1 s2, WB.DFT.orthogonality mp.2.1 ζ.2.1 z2 a.2.1 s.2.1 a3 a4 s3 s4,
    WB.DFT.orthogonality mp.2.2 ζ.2.2 z3 a.2.2 s.2.2 a5 a6 s5 s6, ite_zero_mul_ite_zero, ite_zero_mul_ite_zero]
  simp only [Prod.ext_iff, Nat.cast_mul, mul_assoc]

/-- **the DFT satisfies the FFT contract** (DFT inversion on the mesh box) -/
theorem dft_FFTContract (ζ : K × K × K) (mp : Mesh)
    (z1 : IsPrimitiveRoot ζ.1 mp.1) (z2 : IsPrimitiveRoot ζ.2.1 mp.2.1) (z3 : IsPrimitiveRoot ζ.2.2 mp.2.2)
    (hN : ((mp.1 * mp.2.1 * mp.2.2 : Nat) : K) ≠ 0) :
    FFTContract mp (boxChar ζ) (dftBox (fun s c => (boxChar ζ s c)⁻¹) mp)
      (((mp.1 * mp.2.1 * mp.2.2 : Nat) : K))⁻¹ := by
  intro A a ha
  have horth := boxChar_orth ζ mp z1 z2 z3 a
  generalize ((mp.1 * mp.2.1 * mp.2.2 : Nat) : K) = N at hN horth ⊢
  unfold dftBox
  calc sumK ((gridPoints mp).map fun c =>
          boxChar ζ a c * (N⁻¹ * sumK ((gridPoints mp).map fun s => (boxChar ζ s c)⁻¹ * A s)))
      = sumK ((gridPoints mp).map fun c =>
          sumK ((gridPoints mp).map fun s => N⁻¹ * A s * (boxChar ζ a c * (boxChar ζ s c)⁻¹))) :=
        sumK_map_congr _ _ _ fun c _ => by
          rw [← sumK_map_mul_left, ← sumK_map_mul_left]
          exact sumK_map_congr _ _ _ fun s _ => by ring
    _ = sumK ((gridPoints mp).map fun s => if a = s then N⁻¹ * A s * N else 0) := by
        rw [sumK_comm]
        exact sumK_map_congr _ _ _ fun s hs => by rw [sumK_map_mul_left, horth s ha hs, mul_ite, mul_zero]
    _ = A a := by
        rw [sumK_single _ (nodup_gridPoints mp) a ha fun s => N⁻¹ * A s * N, mul_right_comm, inv_mul_cancel₀ hN, one_mul]

end

end WB.C01
