/-
  Helper lemmas for C29: batching (`get_K_list`), path coordinate (`getKline`), periodic nearest-point map
  (`self_to_path`), component extraction (`get_component`).
-/
import WB.Model.C29
import Mathlib.Data.List.Basic
import Mathlib.Data.List.GetD
import Mathlib.Data.Rat.Floor
import Mathlib.Algebra.BigOperators.Group.List.Basic
import Mathlib.Algebra.Order.Field.Rat
import Mathlib.Tactic.NormNum

namespace WB.C29

/-! ### lists -/

theorem zip_map_self {α β} (f : α → β) : ∀ l : List α, (l.map f).zip l = l.map (fun p => (f p, p))
  | [] => rfl
  | a :: l => by simp [zip_map_self f l]

theorem getD_map_default {α β} (f : α → β) (l : List α) (i : Nat) (d : α) :
    (l.map f).getD i (f d) = f (l.getD i d) := by
  rw [List.getD_eq_getElem?_getD, List.getD_eq_getElem?_getD, List.getElem?_map]
  cases l[i]? <;> rfl

/-! ### get_K_list -/

theorem chunksAux_cons {α} (k fuel : Nat) (a : α) (l : List α) :
    chunksAux k (fuel + 1) (a :: l) = (a :: l).take k :: chunksAux k fuel ((a :: l).drop k) := rfl

theorem chunksAux_flatten {α} (k : Nat) (hk : 0 < k) (fuel : Nat) (l : List α) (h : l.length ≤ fuel) :
    (chunksAux k fuel l).flatten = l := by
  induction fuel generalizing l with
  | zero => rw [List.length_eq_zero_iff.mp (Nat.le_zero.1 h)]; rfl
  | succ fuel ih =>
    cases l with
    | nil => rfl
    | cons a l =>
      rw [chunksAux_cons, List.flatten_cons, ih _ (by rw [List.length_drop]; simp only [List.length_cons] at h ⊢; omega)]
      exact List.take_append_drop k (a :: l)

theorem chunksAux_sizes {α} (k : Nat) (hk : 0 < k) (fuel : Nat) (l : List α) :
    ∀ c ∈ chunksAux k fuel l, c ≠ [] ∧ c.length ≤ k := by
  induction fuel generalizing l with
  | zero => exact fun _ hc => nomatch hc
  | succ fuel ih =>
    cases l with
    | nil => exact fun _ hc => nomatch hc
    | cons a l =>
      intro c hc
      rw [chunksAux_cons] at hc
      rcases List.mem_cons.mp hc with rfl | hc
      · rw [← List.length_pos_iff, List.length_take]
        exact ⟨Nat.lt_min.2 ⟨hk, Nat.succ_pos _⟩, Nat.min_le_left _ _⟩
      · exact ih _ c hc

/-! ### getKline -/

theorem cumsumFrom_sorted : ∀ (l : List Rat) (s : Rat), (∀ x ∈ l, 0 ≤ x) → (s :: cumsumFrom s l).Pairwise (· ≤ ·)
  | [], s, _ => List.pairwise_singleton _ _
  | x :: l, s, h => by
    have hx : s ≤ s + x := le_add_of_nonneg_right (h x List.mem_cons_self)
    have ih := cumsumFrom_sorted l (s + x) (fun y hy => h y (List.mem_cons_of_mem _ hy))
    rw [cumsumFrom, List.pairwise_cons]
    refine ⟨fun a ha => ?_, ih⟩
    rcases List.mem_cons.mp ha with rfl | ha
    · exact hx
    · exact hx.trans ((List.pairwise_cons.mp ih).1 a ha)

theorem cumsumFrom_length : ∀ (l : List Rat) (s : Rat), (cumsumFrom s l).length = l.length
  | [], _ => rfl
  | x :: l, s => by rw [cumsumFrom, List.length_cons, cumsumFrom_length l, List.length_cons]

theorem cumsumFrom_getD (l : List Rat) (s : Rat) (i : Nat) (h : i ≤ l.length) :
    (s :: cumsumFrom s l).getD i 0 = s + (l.take i).sum := by
  induction i generalizing l s with
  | zero => exact (add_zero s).symm
  | succ i ih =>
    cases l with
    | nil => exact absurd h (Nat.not_succ_le_zero i)
    | cons x l =>
      rw [cumsumFrom, List.getD_cons_succ, List.take_succ_cons, List.sum_cons, ih l (s + x) (Nat.le_of_succ_le_succ h),
        add_assoc]

theorem cumsumFrom_getD_succ (l : List Rat) (s : Rat) (i : Nat) (h : i < l.length) :
    (s :: cumsumFrom s l).getD (i + 1) 0 = (s :: cumsumFrom s l).getD i 0 + l.getD i 0 := by
  rw [cumsumFrom_getD l s (i + 1) h, cumsumFrom_getD l s i (Nat.le_of_lt h), List.sum_take_succ l i h,
    List.getD_eq_getElem?_getD, List.getElem?_eq_getElem h, add_assoc]
  rfl

theorem klineSteps_nonneg (d : List Rat) (breaks : List Nat) (thresh : Option Rat) (hd : ∀ x ∈ d, 0 ≤ x) :
    ∀ y ∈ klineSteps d breaks thresh, 0 ≤ y := by
  intro y hy
  unfold klineSteps at hy
  obtain ⟨p, hp, rfl⟩ := List.mem_map.mp hy
  have hp1 : p.1 ∈ d := by
    have := List.mem_zipIdx_iff_getElem?.1 hp
    exact List.mem_of_getElem? this
  have h0 := hd p.1 hp1
  split
  · exact le_refl _
  · split
    · split
      · exact le_refl _
      · exact h0
    · exact h0

theorem klineSteps_length (d : List Rat) (breaks : List Nat) (thresh : Option Rat) :
    (klineSteps d breaks thresh).length = d.length := by
  unfold klineSteps; simp

theorem klineSteps_break (d : List Rat) (breaks : List Nat) (thresh : Option Rat) (i : Nat) (hi : i ∈ breaks) :
    (klineSteps d breaks thresh).getD i 0 = 0 := by
  unfold klineSteps
  rw [List.getD_eq_getElem?_getD, List.getElem?_map, List.getElem?_zipIdx]
  cases hd : d[i]? with
  | none => simp
  | some x =>
    simp [hi]

/-! ### the periodic difference -/

theorem roundHalfEven_intCast (z : Int) : roundHalfEven (z : Rat) = z := by
  unfold roundHalfEven
  simp only [Rat.floor_intCast, sub_self]
  exact if_pos one_half_pos

theorem absR_nonneg (q : Rat) : 0 ≤ absR q := by
  unfold absR
  split
  · exact le_of_lt (neg_pos.2 ‹_›)
  · exact not_lt.1 ‹_›

theorem absR_eq (q : Rat) : absR q = q ∨ absR q = -q := by
  unfold absR; split
  · right; rfl
  · left; rfl

/-- the periodic difference vanishes exactly when the two coordinates differ by an integer -/
theorem pdiff_eq_zero_iff (x y : Rat) : pdiff x y = 0 ↔ ∃ n : Int, x = y + n := by
  unfold pdiff
  constructor
  · intro h
    have h1 := sub_eq_zero.1 h
    rcases absR_eq (x - y) with e | e
    · exact ⟨roundHalfEven (absR (x - y)), by rw [← h1, e, add_sub_cancel]⟩
    · exact ⟨-roundHalfEven (absR (x - y)), by rw [Int.cast_neg, ← h1, e, neg_neg, add_sub_cancel]⟩
  · rintro ⟨n, rfl⟩
    rw [add_sub_cancel_left]
    rcases absR_eq (n : Rat) with h | h
    · rw [h, roundHalfEven_intCast, sub_self]
    · rw [h, ← Int.cast_neg, roundHalfEven_intCast, sub_self]

theorem pdist2_nonneg (k p : Q3) : 0 ≤ pdist2 k p :=
  add_nonneg (add_nonneg (mul_self_nonneg _) (mul_self_nonneg _)) (mul_self_nonneg _)

/-- two k-points are equal modulo a reciprocal lattice vector -/
def Congr (k p : Q3) : Prop := ∃ a b c : Int, k = (p.1 + a, p.2.1 + b, p.2.2 + c)

theorem pdist2_eq_zero_iff (k p : Q3) : pdist2 k p = 0 ↔ Congr k p := by
  have n1 := mul_self_nonneg (pdiff k.1 p.1)
  have n2 := mul_self_nonneg (pdiff k.2.1 p.2.1)
  have n3 := mul_self_nonneg (pdiff k.2.2 p.2.2)
  constructor
  · intro h
    obtain ⟨h12, h3⟩ := (add_eq_zero_iff_of_nonneg (add_nonneg n1 n2) n3).1 h
    obtain ⟨h1, h2⟩ := (add_eq_zero_iff_of_nonneg n1 n2).1 h12
    obtain ⟨a, ha⟩ := (pdiff_eq_zero_iff _ _).1 (mul_self_eq_zero.1 h1)
    obtain ⟨b, hb⟩ := (pdiff_eq_zero_iff _ _).1 (mul_self_eq_zero.1 h2)
    obtain ⟨c, hc⟩ := (pdiff_eq_zero_iff _ _).1 (mul_self_eq_zero.1 h3)
    exact ⟨a, b, c, Prod.ext ha (Prod.ext hb hc)⟩
  · rintro ⟨a, b, c, rfl⟩
    unfold pdist2
    rw [(pdiff_eq_zero_iff _ _).2 ⟨a, rfl⟩, (pdiff_eq_zero_iff _ _).2 ⟨b, rfl⟩, (pdiff_eq_zero_iff _ _).2 ⟨c, rfl⟩]
    norm_num

/-! ### argmin -/

/-- `r` is the first index of the minimum of `L` -/
def IsFirstMin (L : List Rat) (r : Nat) : Prop :=
  r < L.length ∧ (∀ j, j < L.length → L.getD r 0 ≤ L.getD j 0) ∧ ∀ j, j < r → L.getD r 0 < L.getD j 0

/-- one step of the scan: a new element takes over exactly when it is strictly smaller -/
theorem IsFirstMin.concat {pre : List Rat} {best : Nat} (h : IsFirstMin pre best) (x : Rat) :
    IsFirstMin (pre ++ [x]) (if x < pre.getD best 0 then pre.length else best) := by
  obtain ⟨hb, hmin, hfirst⟩ := h
  have hold : ∀ j, j < pre.length → (pre ++ [x]).getD j 0 = pre.getD j 0 := fun j hj => List.getD_append _ _ _ _ hj
  have hnew : (pre ++ [x]).getD pre.length 0 = x := by
    rw [List.getD_append_right _ _ _ _ (le_refl _), Nat.sub_self]; rfl
  have hcases : ∀ j, j < (pre ++ [x]).length → j < pre.length ∨ j = pre.length := fun j hj => by
    rw [List.length_append] at hj; exact Nat.lt_succ_iff_lt_or_eq.1 hj
  split
  · rename_i hlt
    refine ⟨by simp, fun j hj => ?_, fun j hj => ?_⟩
    · rcases hcases j hj with hj | rfl
      · rw [hnew, hold j hj]; exact le_of_lt (lt_of_lt_of_le hlt (hmin j hj))
      · exact le_refl _
    · rw [hnew, hold j hj]; exact lt_of_lt_of_le hlt (hmin j hj)
  · rename_i hge
    refine ⟨by rw [List.length_append]; exact Nat.lt_succ_of_lt hb, fun j hj => ?_, fun j hj => ?_⟩
    · rcases hcases j hj with hj | rfl
      · rw [hold best hb, hold j hj]; exact hmin j hj
      · rw [hold best hb, hnew]; exact not_lt.1 hge
    · rw [hold best hb, hold j (lt_trans hj hb)]; exact hfirst j hj

theorem argminAux_spec (rem pre : List Rat) (best : Nat) (h : IsFirstMin pre best) :
    IsFirstMin (pre ++ rem) (argminAux rem pre.length best (pre.getD best 0)) := by
  induction rem generalizing pre best with
  | nil => rwa [List.append_nil]
  | cons x rem ih =>
    have hstep := ih (pre ++ [x]) _ (h.concat x)
    rw [List.append_assoc, List.length_append] at hstep
    rw [argminAux]
    split
    · rename_i hlt
      rw [if_pos hlt, List.getD_append_right _ _ _ _ (le_refl _), Nat.sub_self] at hstep
      exact hstep
    · rename_i hge
      rw [if_neg hge, List.getD_append _ _ _ _ h.1] at hstep
      exact hstep

theorem argmin_spec (L : List Rat) (hL : L ≠ []) : IsFirstMin L (argmin L) := by
  cases L with
  | nil => exact absurd rfl hL
  | cons x l =>
    exact argminAux_spec l [x] 0 ⟨Nat.zero_lt_one, fun j hj => by rw [Nat.lt_one_iff.1 hj], fun _ hj => nomatch hj⟩

/-! ### self_to_path -/

theorem pathMapping_getD (kres kpath : List Q3) (j : Nat) (p : Q3) (hj : kpath[j]? = some p) :
    (pathMapping kres kpath).getD j 0 = argmin (kres.map (fun k => pdist2 k p)) := by
  unfold pathMapping
  rw [List.getD_eq_getElem?_getD, List.getElem?_map, hj]
  rfl

theorem selfToPath_eq_some_iff (kres kpath : List Q3) (m : List Nat) :
    selfToPath kres kpath = some m ↔ pathMapping kres kpath = m ∧
      ∀ p ∈ kpath, Congr (kres.getD (argmin (kres.map (fun k => pdist2 k p))) (0, 0, 0)) p := by
  unfold selfToPath
  simp only
  rw [Option.ite_none_right_eq_some, and_comm, Option.some.injEq, List.all_eq_true]
  unfold pathMapping
  rw [zip_map_self]
  simp only [List.mem_map, forall_exists_index, and_imp, forall_apply_eq_imp_iff₂, beq_iff_eq, pdist2_eq_zero_iff]

/-- among the computed k-points the one nearest to `p` modulo 1 is the first one congruent to `p`, if there is any -/
theorem argmin_pdist2 (kres : List Q3) (p : Q3) (i0 : Nat) (hi0 : i0 < kres.length)
    (hc : Congr (kres.getD i0 (0, 0, 0)) p) :
    argmin (kres.map (fun k => pdist2 k p)) < kres.length ∧
      Congr (kres.getD (argmin (kres.map (fun k => pdist2 k p))) (0, 0, 0)) p ∧
      ∀ i, i < argmin (kres.map (fun k => pdist2 k p)) → ¬ Congr (kres.getD i (0, 0, 0)) p := by
  obtain ⟨s1, s2, s3⟩ := argmin_spec (kres.map (fun k => pdist2 k p))
    (fun e => by rw [List.map_eq_nil_iff.1 e] at hi0; exact absurd hi0 (Nat.not_lt_zero _))
  have hget : ∀ i, i < kres.length →
      (kres.map (fun k => pdist2 k p)).getD i 0 = pdist2 (kres.getD i (0, 0, 0)) p := fun i hi => by
    rw [List.getD_eq_getElem _ _ (by rwa [List.length_map]), List.getElem_map, List.getD_eq_getElem _ _ hi]
  rw [List.length_map] at s1 s2
  have hr0 : pdist2 (kres.getD (argmin (kres.map (fun k => pdist2 k p))) (0, 0, 0)) p = 0 := by
    have h1 := s2 i0 hi0
    rw [hget _ s1, hget _ hi0, (pdist2_eq_zero_iff _ _).2 hc] at h1
    exact le_antisymm h1 (pdist2_nonneg _ _)
  refine ⟨s1, (pdist2_eq_zero_iff _ _).1 hr0, fun i hi hcon => ?_⟩
  have h1 := s3 i hi
  rw [hget _ s1, hget _ (lt_trans hi s1), (pdist2_eq_zero_iff _ _).2 hcon, hr0] at h1
  exact lt_irrefl _ h1

/-! ### get_component -/

theorem foldl_peel (T : Tensor) : ∀ (comp idx : List Nat),
    comp.foldl peelLast T idx = T (idx ++ comp.reverse)
  | [], idx => by simp
  | a :: rest, idx => by
    rw [List.foldl_cons, foldl_peel (peelLast T a) rest idx]
    show T ((idx ++ rest.reverse) ++ [a]) = T (idx ++ (a :: rest).reverse)
    simp

end WB.C29
