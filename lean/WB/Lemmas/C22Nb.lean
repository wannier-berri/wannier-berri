/-
  C22 — `find_G_and_neighbours`: congruence modulo the mesh, the neighbour search, and `Option`-`mapM` for the table.
-/
import WB.Model.C22
import Mathlib.Data.List.Basic
import Mathlib.Tactic.LinearCombination

namespace WB.C22

theorem divisible_iff (N : G3) (g : I3) : divisible N g = true ↔
    ((N.1 : Int) ∣ g.1) ∧ ((N.2.1 : Int) ∣ g.2.1) ∧ ((N.2.2 : Int) ∣ g.2.2) := by
  simp only [divisible, Bool.and_eq_true, beq_iff_eq, and_assoc, Int.dvd_iff_fmod_eq_zero]

theorem mulN_gShift (N : G3) (g : I3) (h : divisible N g = true) : mulN (gShift N g) N = g := by
  obtain ⟨h1, h2, h3⟩ := (divisible_iff N g).1 h
  unfold mulN gShift
  simp only [Int.fdiv_mul_cancel h1, Int.fdiv_mul_cancel h2, Int.fdiv_mul_cancel h3]

theorem exists_rep {n : Nat} (hn : 0 < n) (a : Int) : ∃ i : Nat, i < n ∧ (n : Int) ∣ a - i := by
  have h0 := Int.emod_nonneg a (Int.natCast_ne_zero.2 hn.ne')
  have h1 := Int.emod_lt_of_pos a (Int.natCast_pos.2 hn)
  refine ⟨(a % n).toNat, by omega, ?_⟩
  rw [Int.toNat_of_nonneg h0]
  exact Int.dvd_self_sub_emod

theorem dvd_sub_of_shift {n k k' g g' : Int} (h : k + g * n = k' + g' * n) : n ∣ k' - k :=
  ⟨g - g', by linear_combination -h⟩

theorem shift_unique {n k g g' : Int} (hn : n ≠ 0) (h : k + g * n = k + g' * n) : g = g' :=
  Int.eq_of_mul_eq_mul_right hn (add_left_cancel h)

theorem add3_sub3 (a b : I3) : add3 b (sub3 a b) = a := by
  unfold add3 sub3
  ext <;> simp

theorem findNb_eq_some (N : G3) (ks : List I3) (kb : I3) (i2 : Nat) (G : I3)
    (h : findNb N ks kb = some (i2, G)) :
    ∃ k2, ks.zipIdx.find? (fun p => divisible N (sub3 kb p.1)) = some (k2, i2) ∧ G = gShift N (sub3 kb k2) := by
  unfold findNb at h
  split at h
  · rename_i k2 j hf
    simp only [Option.some.injEq, Prod.mk.injEq] at h
    obtain ⟨rfl, rfl⟩ := h
    exact ⟨k2, hf, rfl⟩
  · cases h

theorem mapM_option_forall₂ {α β} (f : α → Option β) : ∀ (l : List α) (r : List β),
    l.mapM f = some r → List.Forall₂ (fun a b => f a = some b) l r
  | [], r, h => by
    simp at h; subst h; exact List.Forall₂.nil
  | a :: l, r, h => by
    rw [List.mapM_cons] at h
    -- only the case `f a = some b`, `l.mapM f = some r'` survives, with `b :: r' = r`
    rcases hfa : f a with _ | b <;> rcases hl : l.mapM f with _ | r' <;> simp [hfa, hl] at h
    subst h
    exact List.Forall₂.cons hfa (mapM_option_forall₂ f l r' hl)

theorem mapM_option_total {α β} (f : α → Option β) : ∀ (l : List α),
    (∀ a ∈ l, ∃ b, f a = some b) → ∃ r, l.mapM f = some r
  | [], _ => ⟨[], by simp⟩
  | a :: l, h => by
    obtain ⟨b, hb⟩ := h a (by simp)
    obtain ⟨r, hr⟩ := mapM_option_total f l (fun x hx => h x (by simp [hx]))
    exact ⟨b :: r, by rw [List.mapM_cons, hb, hr]; simp⟩

end WB.C22
