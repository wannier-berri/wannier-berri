/-
  C07 helper lemmas: covariance of Cartesian tensor formulas built by index contraction under an orthogonal matrix.

  Tensors are curried (`CT K (r+1) = Fin 3 → CT K r`), rotations act index by index.  An expression language
  (atoms, tensor product, sum, integer multiple, contraction with δ and with ε, index transposition, k-derivative)
  gets a structurally computed grade (rank, axial?, TR-odd?); equivariance with a grade (`Equi`) is preserved by every
  algebraic constructor of the language; for the k-derivative this is a hypothesis of `tensor_expr_equivariant`
  (Props/C07), which puts the cases together.
-/
import WB.Lemmas.C09Alg
import WB.Model.C07
import Mathlib.Algebra.Module.Pi
import Mathlib.Algebra.Module.LinearMap.Defs
import Mathlib.Algebra.Module.LinearMap.Basic
import Mathlib.Algebra.BigOperators.Fin
import Mathlib.Algebra.BigOperators.Pi
import Mathlib.Algebra.BigOperators.GroupWithZero.Action
import Mathlib.Algebra.Module.BigOperators
import Mathlib.Tactic.Abel
import Mathlib.Tactic.Ring
import Mathlib.Tactic.FinCases

namespace WB.C07
open WB.C09

/-- curried Cartesian tensors of rank `r` -/
def CT (K : Type) : Nat → Type
  | 0 => K
  | r + 1 => Fin 3 → CT K r

section Alg
variable {K : Type} [CommRing K]

instance CT.instAddCommGroup : (r : Nat) → AddCommGroup (CT K r)
  | 0 => inferInstanceAs (AddCommGroup K)
  | r + 1 => @Pi.addCommGroup (Fin 3) (fun _ => CT K r) (fun _ => CT.instAddCommGroup r)

instance CT.instModule : (r : Nat) → Module K (CT K r)
  | 0 => inferInstanceAs (Module K K)
  | r + 1 => @Pi.module (Fin 3) (fun _ => CT K r) K _ _ (fun _ => CT.instModule r)

theorem CT.add_apply {r : Nat} (a b : CT K (r + 1)) (i : Fin 3) : (a + b) i = a i + b i := rfl
theorem CT.smul_apply {r : Nat} (c : K) (a : CT K (r + 1)) (i : Fin 3) : (c • a) i = c • a i := rfl
theorem CT.sum_apply {r : Nat} {ι : Type} (s : Finset ι) (f : ι → CT K (r + 1)) (i : Fin 3) :
    (∑ x ∈ s, f x) i = ∑ x ∈ s, f x i := Finset.sum_apply i s f

/-- rotation of every index by the matrix `R` -/
def rotC (R : Mat K) : (r : Nat) → CT K r →ₗ[K] CT K r
  | 0 => LinearMap.id
  | r + 1 =>
    { toFun := fun t i => ∑ j, R i j • rotC R r (t j)
      map_add' := by
        intro a b; funext i
        show ∑ j, R i j • rotC R r ((a + b) j) = (∑ j, R i j • rotC R r (a j)) + ∑ j, R i j • rotC R r (b j)
        simp only [CT.add_apply, map_add, smul_add, Finset.sum_add_distrib]
      map_smul' := by
        intro c a; funext i
        show ∑ j, R i j • rotC R r ((c • a) j) = c • ∑ j, R i j • rotC R r (a j)
        rw [Finset.smul_sum]
        apply Finset.sum_congr rfl; intro j _
        rw [CT.smul_apply, map_smul, smul_comm] }

theorem rotC_succ (R : Mat K) (r : Nat) (t : CT K (r + 1)) (i : Fin 3) :
    rotC R (r + 1) t i = ∑ j, R i j • rotC R r (t j) := rfl

theorem rotC_zero (R : Mat K) (t : CT K 0) : rotC R 0 t = t := rfl

/-- tensor product; the indices of the first factor come first -/
def tmul : (r s : Nat) → CT K r → CT K s → CT K (s + r)
  | 0, _, a, b => (show K from a) • b
  | r + 1, s, a, b => fun i => tmul r s (a i) b

theorem tmul_add_left (r s : Nat) (a a' : CT K r) (b : CT K s) :
    tmul r s (a + a') b = tmul r s a b + tmul r s a' b := by
  induction r with
  | zero => exact add_smul (R := K) a a' b
  | succ r ih => exact funext fun i => ih (a i) (a' i)

theorem tmul_smul_left (r s : Nat) (c : K) (a : CT K r) (b : CT K s) :
    tmul r s (c • a) b = c • tmul r s a b := by
  induction r with
  | zero => exact mul_smul (α := K) c a b
  | succ r ih => exact funext fun i => ih (a i)

theorem tmul_zero_left : ∀ (r s : Nat) (b : CT K s), tmul r s (0 : CT K r) b = 0 := by
  intro r s b
  induction r with
  | zero => exact zero_smul K b
  | succ r ih => exact funext fun _ => ih

theorem tmul_sum_left (r s : Nat) (f : Fin 3 → CT K r) (b : CT K s) :
    tmul r s (∑ j, f j) b = ∑ j, tmul r s (f j) b := by
  rw [Fin.sum_univ_three, Fin.sum_univ_three, tmul_add_left, tmul_add_left]

theorem tmul_add_right : ∀ (r s : Nat) (a : CT K r) (b b' : CT K s),
    tmul r s a (b + b') = tmul r s a b + tmul r s a b' := by
  intro r s a b b'
  induction r with
  | zero => exact smul_add (M := K) a b b'
  | succ r ih => exact funext fun i => ih (a i)

theorem tmul_smul_right (r s : Nat) (c : K) (a : CT K r) (b : CT K s) :
    tmul r s a (c • b) = c • tmul r s a b := by
  induction r with
  | zero => exact smul_comm (M := K) (N := K) a c b
  | succ r ih => exact funext fun i => ih (a i)

theorem rotC_tmul (R : Mat K) : ∀ (r s : Nat) (a : CT K r) (b : CT K s),
    rotC R (s + r) (tmul r s a b) = tmul r s (rotC R r a) (rotC R s b)
  | 0, s, a, b => by
    show rotC R s ((show K from a) • b) = (show K from a) • rotC R s b
    exact map_smul _ _ _
  | r + 1, s, a, b => by
    funext i
    show ∑ j, R i j • rotC R (s + r) (tmul r s (a j) b) = tmul r s (∑ j, R i j • rotC R r (a j)) (rotC R s b)
    rw [tmul_sum_left]
    apply Finset.sum_congr rfl
    intro j _
    rw [rotC_tmul R r s, tmul_smul_left]

/-! ### contractions and transposition of the first two indices, and lifting under the first index -/

/-- Levi-Civita symbol -/
def eps3 (a b c : Fin 3) : K :=
  if b = a + 1 ∧ c = a + 2 then 1 else if b = a + 2 ∧ c = a + 1 then -1 else 0

def contrL (r : Nat) : CT K (r + 2) →ₗ[K] CT K r where
  toFun t := ∑ m, t m m
  map_add' a b := by simp only [CT.add_apply, Finset.sum_add_distrib]
  map_smul' c a := by simp only [CT.smul_apply, RingHom.id_apply, Finset.smul_sum]

def epsL (r : Nat) : CT K (r + 2) →ₗ[K] CT K (r + 1) where
  toFun t := fun c => ∑ a, ∑ b, (eps3 c a b : K) • t a b
  map_add' a b := by
    funext c
    show ∑ x, ∑ y, (eps3 c x y : K) • (a + b) x y
      = (∑ x, ∑ y, (eps3 c x y : K) • a x y) + ∑ x, ∑ y, (eps3 c x y : K) • b x y
    simp only [CT.add_apply, smul_add, Finset.sum_add_distrib]
  map_smul' k a := by
    funext c
    show ∑ x, ∑ y, (eps3 c x y : K) • (k • a) x y = k • ∑ x, ∑ y, (eps3 c x y : K) • a x y
    simp only [Finset.smul_sum]
    apply Finset.sum_congr rfl; intro x _; apply Finset.sum_congr rfl; intro y _
    rw [CT.smul_apply, CT.smul_apply, smul_comm]

def swapL (r : Nat) : CT K (r + 2) →ₗ[K] CT K (r + 2) where
  toFun t := fun i j => t j i
  map_add' a b := rfl
  map_smul' c a := rfl

theorem swapL_apply (r : Nat) (t : CT K (r + 2)) (i j : Fin 3) : swapL r t i j = t j i := rfl

def underL {r s : Nat} (f : CT K r →ₗ[K] CT K s) : CT K (r + 1) →ₗ[K] CT K (s + 1) where
  toFun t := fun i => f (t i)
  map_add' a b := by
    funext i; show f ((a + b) i) = f (a i) + f (b i); rw [CT.add_apply, map_add]
  map_smul' c a := by
    funext i; show f ((c • a) i) = c • f (a i); rw [CT.smul_apply, map_smul]

theorem epsL_apply (r : Nat) (t : CT K (r + 2)) (c : Fin 3) :
    epsL r t c = t (c + 1) (c + 2) - t (c + 2) (c + 1) := by
  have h12 : c + 1 ≠ c + 2 := by revert c; decide
  have z : ∀ a b, ¬(a = c + 1 ∧ b = c + 2) → ¬(a = c + 2 ∧ b = c + 1) → (eps3 c a b : K) • t a b = 0 :=
    fun a b h1 h2 => by rw [eps3, if_neg h1, if_neg h2, zero_smul]
  show ∑ a, ∑ b, (eps3 c a b : K) • t a b = _
  rw [Fintype.sum_eq_add (c + 1) (c + 2) h12
      fun a ha => Finset.sum_eq_zero fun b _ => z a b (fun h => ha.1 h.1) (fun h => ha.2 h.1),
    Finset.sum_eq_single (c + 2) (fun b _ hb => z _ b (fun h => hb h.2) (fun h => h12 h.1))
      (fun h => absurd (Finset.mem_univ _) h),
    Finset.sum_eq_single (c + 1) (fun b _ hb => z _ b (fun h => h12 h.1.symm) (fun h => hb h.2))
      (fun h => absurd (Finset.mem_univ _) h),
    eps3, if_pos ⟨rfl, rfl⟩, one_smul, eps3, if_neg (fun h => h12 h.1.symm), if_pos ⟨rfl, rfl⟩, neg_smul, one_smul,
    sub_eq_add_neg]

/-- the nine index pairs: diagonal, cyclic, anticyclic -/
theorem sum_pairs {M : Type} [AddCommMonoid M] (W : Fin 3 → Fin 3 → M) :
    ∑ j, ∑ l, W j l = ∑ i, (W i i + W (i + 1) (i + 2) + W (i + 2) (i + 1)) := by
  simp only [Fin.sum_univ_three, Fin.reduceAdd, Fin.isValue]
  abel

/-- `RᵀR = 1` -/
def Orth (R : Mat K) : Prop := ∀ a b : Fin 3, ∑ m, R m a * R m b = if a = b then 1 else 0

theorem rotC_two (R : Mat K) (r : Nat) (t : CT K (r + 2)) (i k : Fin 3) :
    rotC R (r + 2) t i k = ∑ j, ∑ l, (R i j * R k l) • rotC R r (t j l) := by
  rw [rotC_succ, CT.sum_apply]
  apply Finset.sum_congr rfl
  intro j _
  rw [CT.smul_apply, rotC_succ, Finset.smul_sum]
  apply Finset.sum_congr rfl
  intro l _
  rw [smul_smul]

theorem rotC_contr (R : Mat K) (hR : Orth R) (r : Nat) (t : CT K (r + 2)) :
    contrL r (rotC R (r + 2) t) = rotC R r (contrL r t) := by
  show ∑ m, rotC R (r + 2) t m m = rotC R r (∑ m, t m m)
  simp only [rotC_two, map_sum]
  rw [Finset.sum_comm]
  refine Finset.sum_congr rfl fun j _ => ?_
  rw [Finset.sum_comm]
  simp only [← Finset.sum_smul, hR j, ite_smul, one_smul, zero_smul, Finset.sum_ite_eq, Finset.mem_univ, if_true]

theorem rotC_swap (R : Mat K) (r : Nat) (t : CT K (r + 2)) :
    swapL r (rotC R (r + 2) t) = rotC R (r + 2) (swapL r t) := by
  funext i k
  show rotC R (r + 2) t k i = rotC R (r + 2) (swapL r t) i k
  rw [rotC_two, rotC_two, Finset.sum_comm]
  apply Finset.sum_congr rfl; intro l _
  apply Finset.sum_congr rfl; intro j _
  rw [mul_comm]; rfl

/-- Under ANY matrix the ε-contraction turns with the cofactor matrix: the coefficient of `t j l - t l j` in
    component `c` is the 2x2 minor of rows `c+1, c+2` and columns `j, l`. -/
theorem epsL_rotC (R : Mat K) (r : Nat) (t : CT K (r + 2)) (c : Fin 3) :
    epsL r (rotC R (r + 2) t) c = ∑ i, adj3 R i c • rotC R r (epsL r t i) := by
  have sw : rotC R (r + 2) t (c + 2) (c + 1) = rotC R (r + 2) (swapL r t) (c + 1) (c + 2) := by
    rw [← rotC_swap]; rfl
  rw [epsL_apply, sw, rotC_two, rotC_two, ← Finset.sum_sub_distrib]
  simp only [← Finset.sum_sub_distrib, ← smul_sub, swapL_apply]
  rw [sum_pairs]
  apply Finset.sum_congr rfl; intro i _
  rw [sub_self, smul_zero, zero_add, epsL_apply, map_sub, ← neg_sub (rotC R r (t (i + 1) (i + 2))), smul_neg,
    ← sub_eq_add_neg, ← sub_smul]
  rfl

/-- for a matrix whose adjugate is `d · Rᵀ` (an orthogonal one, `d = det R`) this is a rotation up to `d` -/
theorem rotC_eps (R : Mat K) (d : K) (hadj : adj3 R = matScale (matT R) d) (r : Nat) (t : CT K (r + 2)) :
    epsL r (rotC R (r + 2) t) = d • rotC R (r + 1) (epsL r t) := by
  funext c
  rw [epsL_rotC, CT.smul_apply, rotC_succ, Finset.smul_sum, hadj]
  apply Finset.sum_congr rfl; intro i _
  rw [smul_smul, mul_comm]; rfl

theorem rotC_under (R : Mat K) {r s : Nat} (f : CT K r →ₗ[K] CT K s) (c : K)
    (hf : ∀ x, f (rotC R r x) = c • rotC R s (f x)) (t : CT K (r + 1)) :
    underL f (rotC R (r + 1) t) = c • rotC R (s + 1) (underL f t) := by
  funext i
  show f (rotC R (r + 1) t i) = (c • rotC R (s + 1) (underL f t)) i
  rw [CT.smul_apply, rotC_succ, rotC_succ, map_sum, Finset.smul_sum]
  apply Finset.sum_congr rfl; intro j _
  rw [map_smul, hf, smul_comm]; rfl

/-! ### operations on the leading indices -/

def TOp.eval : {r s : Nat} → TOp r s → (CT K r →ₗ[K] CT K s)
  | _, _, .contr r => contrL r
  | _, _, .eps r => epsL r
  | _, _, .swap r => swapL r
  | _, _, .under f => underL f.eval
  | _, _, .comp g f => g.eval.comp f.eval

def dsign (d : K) (b : Bool) : K := if b then d else 1

theorem dsign_xor (d : K) (hd : d * d = 1) (a b : Bool) : dsign d (a != b) = dsign d a * dsign d b := by
  cases a <;> cases b <;> simp [dsign, hd]

theorem TOp.rot_eval (R : Mat K) (d : K) (hR : Orth R) (hadj : adj3 R = matScale (matT R) d) (hd : d * d = 1) :
    ∀ {r s : Nat} (op : TOp r s) (x : CT K r),
      op.eval (rotC R r x) = dsign d op.flips • rotC R s (op.eval x)
  | _, _, .contr r, x => (rotC_contr R hR r x).trans (one_smul K _).symm
  | _, _, .eps r, x => rotC_eps R d hadj r x
  | _, _, .swap r, x => (rotC_swap R r x).trans (one_smul K _).symm
  | _, _, .under f, x => rotC_under R f.eval _ (TOp.rot_eval R d hR hadj hd f) x
  | _, _, .comp g f, x => by
    show g.eval (f.eval (rotC R _ x)) = dsign d (g.flips != f.flips) • rotC R _ (g.eval (f.eval x))
    rw [TOp.rot_eval R d hR hadj hd f, map_smul, TOp.rot_eval R d hR hadj hd g, smul_smul, dsign_xor d hd, mul_comm]

end Alg

section Sem
variable {K : Type} [CommRing K] {X : Type} {A : Nat → Type}

/-- value of an expression as a tensor field over the k-points `X` -/
def TExpr.eval (env : ∀ r, A r → X → CT K r) (D : ∀ r, (X → CT K r) → (X → CT K (r + 1))) :
    {r : Nat} → TExpr A r → X → CT K r
  | _, .atom a => env _ a
  | _, .mul x y => fun k => tmul _ _ (x.eval env D k) (y.eval env D k)
  | _, .add x y => fun k => x.eval env D k + y.eval env D k
  | _, .zsmul n x => fun k => n • x.eval env D k
  | _, .app op x => fun k => op.eval (x.eval env D k)
  | _, .deriv x => D _ (x.eval env D)

/-- A tensor field is equivariant under one symmetry operation (k ↦ φ k, full orthogonal matrix `R` with
    determinant `d`, `τ = -1` if the operation contains time reversal) with grade (axial, TR-odd):
    `F (φ k) = d^axial τ^trOdd · R…R F(k)`. -/
def Equi (φ : X → X) (R : Mat K) (d τ : K) (r : Nat) (F : X → CT K r) (ax tr : Bool) : Prop :=
  ∀ k, F (φ k) = (dsign d ax * dsign τ tr) • rotC R r (F k)

variable {φ : X → X} {R : Mat K} {d τ : K} {r s : Nat} {F : X → CT K r} {ax tr : Bool}

theorem Equi.mul (hd : d * d = 1) (hτ : τ * τ = 1) {G : X → CT K s} {ax' tr' : Bool}
    (hF : Equi φ R d τ r F ax tr) (hG : Equi φ R d τ s G ax' tr') :
    Equi φ R d τ (s + r) (fun k => tmul r s (F k) (G k)) (ax != ax') (tr != tr') := by
  intro k
  show tmul r s (F (φ k)) (G (φ k)) = _
  rw [hF k, hG k, tmul_smul_left, tmul_smul_right, smul_smul, rotC_tmul, dsign_xor d hd, dsign_xor τ hτ]
  congr 1; ring

theorem Equi.add {G : X → CT K r} (hF : Equi φ R d τ r F ax tr) (hG : Equi φ R d τ r G ax tr) :
    Equi φ R d τ r (fun k => F k + G k) ax tr := by
  intro k
  show F (φ k) + G (φ k) = _
  rw [hF k, hG k, ← smul_add, ← map_add]

theorem Equi.zsmul (n : Int) (hF : Equi φ R d τ r F ax tr) : Equi φ R d τ r (fun k => n • F k) ax tr := by
  intro k
  show n • F (φ k) = _
  rw [hF k, smul_comm, ← map_zsmul]

theorem Equi.app (hR : Orth R) (hadj : adj3 R = matScale (matT R) d) (hd : d * d = 1) (op : TOp r s)
    (hF : Equi φ R d τ r F ax tr) : Equi φ R d τ s (fun k => op.eval (F k)) (op.flips != ax) tr := by
  intro k
  show op.eval (F (φ k)) = _
  rw [hF k, map_smul, TOp.rot_eval R d hR hadj hd op, smul_smul, dsign_xor d hd]
  congr 1; ring

end Sem

end WB.C07
