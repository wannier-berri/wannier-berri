/-
  C14 — the lazy weight cache of `TetraWeights` as a state machine: for every history in which no registered Fermi
  array is modified in place, the cached answers are those of the cache-free computation.  At the end, for contrast, the
  machine whose lookup compares size and end points of the arrays (NOT what the code does; counterexample T9c).
-/
import WB.Model.C14
import Mathlib.Data.List.Basic

namespace WB.C14

variable (kern : List Rat → Int → Nat → Nat → List Rat)

/-- every cached entry is what `kern` gives on the CURRENT contents of the registered object -/
def CacheOk (σ : Sys) : Prop :=
  ∀ (key : Nat × Int × Nat × Nat) (w : List Rat), σ.tw.cache.lookup key = some w →
    ∃ id, σ.tw.eFermis[key.1]? = some id ∧ w = kern (heapGet σ.heap id) key.2.1 key.2.2.1 key.2.2.2

theorem register_spec (s : TW) (id : Nat) :
    (s.register id).2.eFermis[(s.register id).1]? = some id ∧ (s.register id).2.cache = s.cache ∧
    (∀ (j : Nat) (id' : Nat), s.eFermis[j]? = some id' → (s.register id).2.eFermis[j]? = some id') := by
  unfold TW.register
  cases hf : s.eFermis.findIdx? (· == id) with
  | some i =>
    simp only
    rw [List.findIdx?_eq_some_iff_getElem] at hf
    obtain ⟨hi, hp, -⟩ := hf
    refine ⟨?_, trivial, fun _ _ h => h⟩
    rw [List.getElem?_eq_getElem hi]
    simpa using hp
  | none =>
    simp only
    refine ⟨by simp, trivial, fun j id' h => ?_⟩
    have hj : j < s.eFermis.length := by
      by_contra hc
      rw [List.getElem?_eq_none (by omega)] at h
      exact absurd h (by simp)
    rw [List.getElem?_append_left hj]; exact h

theorem weight1b_spec (h : Heap) (s : TW) (ief : Nat) (der : Int) (ik ib : Nat) (id : Nat)
    (hid : s.eFermis[ief]? = some id)
    (hok : CacheOk kern ⟨h, s⟩) :
    (s.weight1b kern h ief der ik ib).1 = kern (heapGet h id) der ik ib ∧
    CacheOk kern ⟨h, (s.weight1b kern h ief der ik ib).2⟩ := by
  unfold TW.weight1b
  cases hc : s.cache.lookup (ief, der, ik, ib) with
  | some w =>
    simp only
    obtain ⟨id', h1, h2⟩ := hok (ief, der, ik, ib) w hc
    simp only at h1 h2
    rw [hid] at h1
    cases h1
    exact ⟨h2, hok⟩
  | none =>
    simp only
    have hget : s.eFermis.getD ief 0 = id := by
      rw [List.getD_eq_getElem?_getD, hid]; rfl
    refine ⟨by rw [hget], ?_⟩
    intro key w hl
    simp only [List.lookup_cons] at hl
    by_cases hk : key == (ief, der, ik, ib)
    · rw [hk] at hl
      have hkey : key = (ief, der, ik, ib) := by simpa using hk
      subst hkey
      refine ⟨id, hid, ?_⟩
      simp only at hl ⊢
      rw [hget] at hl
      exact (Option.some.inj hl).symm
    · have : (key == (ief, der, ik, ib)) = false := by simpa using hk
      rw [this] at hl
      exact hok key w hl

/-- an operation that cannot invalidate the cache: any query; an in-place modification only of an array that was
    never passed to this `TetraWeights` object (or one that does not change the contents) -/
def Safe (σ : Sys) : Op → Prop
  | .query _ _ _ _ => True
  | .mutate id vals => id ∉ σ.tw.eFermis ∨ vals = heapGet σ.heap id

def AllSafe : Sys → List Op → Prop
  | _, [] => True
  | σ, op :: rest => Safe σ op ∧ AllSafe (step kern σ op).1 rest

theorem heapGet_cons_ne (h : Heap) (id id' : Nat) (vals : List Rat) (hne : id' ≠ id) :
    heapGet ((id, vals) :: h) id' = heapGet h id' := by
  unfold heapGet
  rw [List.lookup_cons]
  have : (id' == id) = false := by simpa using hne
  rw [this]

theorem heapGet_cons_self (h : Heap) (id : Nat) (vals : List Rat) : heapGet ((id, vals) :: h) id = vals := by
  unfold heapGet; simp

theorem step_spec (σ : Sys) (op : Op) (hok : CacheOk kern σ) (hs : Safe σ op) :
    CacheOk kern (step kern σ op).1 ∧ ∀ rest, pureRun kern σ.heap (op :: rest) =
      (step kern σ op).2 :: pureRun kern (step kern σ op).1.heap rest := by
  cases op with
  | query id der ik ib =>
    obtain ⟨h1, h2, h3⟩ := register_spec σ.tw id
    have hok' : CacheOk kern ⟨σ.heap, (σ.tw.register id).2⟩ := by
      intro key w hl
      simp only at hl
      rw [h2] at hl
      obtain ⟨id', a, b⟩ := hok key w hl
      exact ⟨id', h3 _ _ a, b⟩
    obtain ⟨w1, w3⟩ := weight1b_spec kern σ.heap (σ.tw.register id).2 (σ.tw.register id).1 der ik ib id h1 hok'
    refine ⟨w3, fun rest => ?_⟩
    simp only [step, pureRun]
    rw [w1]
  | mutate id vals =>
    refine ⟨?_, fun rest => rfl⟩
    intro key w hl
    obtain ⟨id', a, b⟩ := hok key w hl
    refine ⟨id', a, ?_⟩
    simp only [step]
    rcases hs with hs | hs
    · have hne : id' ≠ id := by
        intro he; subst he
        exact hs (List.mem_of_getElem? a)
      rw [heapGet_cons_ne _ _ _ _ hne]; exact b
    · by_cases he : id' = id
      · subst he; rw [heapGet_cons_self, hs]; exact b
      · rw [heapGet_cons_ne _ _ _ _ he]; exact b

theorem run_eq_pureRun : ∀ (ops : List Op) (σ : Sys), CacheOk kern σ → AllSafe kern σ ops →
    run kern σ ops = pureRun kern σ.heap ops
  | [], _, _, _ => rfl
  | op :: rest, σ, hok, hsafe => by
    obtain ⟨h1, h2⟩ := step_spec kern σ op hok hsafe.1
    rw [run, run_eq_pureRun rest (step kern σ op).1 h1 hsafe.2, h2]

theorem cacheOk_empty (h : Heap) : CacheOk kern ⟨h, TW.empty⟩ := by
  intro key w hl
  simp [TW.empty] at hl

/-! ### a lookup by "same length, same first and last value" (NOT what the code does) -/

def sameEnds (a b : List Rat) : Bool :=
  a.length == b.length && a.head? == b.head? && a.getLast? == b.getLast?

/-- registration that also accepts a stored array with equal size and end points -/
def TW.registerEnds (h : Heap) (s : TW) (id : Nat) : Nat × TW :=
  match s.eFermis.findIdx? (fun j => j == id || sameEnds (heapGet h j) (heapGet h id)) with
  | some i => (i, s)
  | none => (s.eFermis.length, { s with eFermis := s.eFermis ++ [id] })

def stepEnds (σ : Sys) : Op → Sys × Option (List Rat)
  | .query id der ik ib =>
    let r := σ.tw.registerEnds σ.heap id
    let q := r.2.weight1b kern σ.heap r.1 der ik ib
    ({ σ with tw := q.2 }, some q.1)
  | .mutate id vals => ({ σ with heap := (id, vals) :: σ.heap }, none)

def runEnds : Sys → List Op → List (Option (List Rat))
  | _, [] => []
  | σ, op :: rest => (stepEnds kern σ op).2 :: runEnds (stepEnds kern σ op).1 rest

end WB.C14
