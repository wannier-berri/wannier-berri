/-
  C25 helper lemmas: the rotated Pauli matrices `σ'_c = C† σ_c C`.
  `K` is any field with a ring endomorphism `conj` ("complex conjugation") and an element `I` with `I² = −1`,
  `conj I = −I`;  `c = cos(θ/2)`, `s = sin(θ/2)` are "real" (`conj c = c`), `e = exp(−iφ/2)` is unimodular
  (`e · conj e = 1`).  ℂ with `starRingEnd ℂ` and `Complex.I` is one instance.

  `pauliRot … comp` is the matrix product `C† σ_comp C` (`pauliRot_eq`), so every statement about the rotated matrices
  is the same statement about the Pauli matrices themselves, plus `C†C = CC† = 1`.
-/
import WB.Model.C25
import Mathlib.Algebra.Field.Basic
import Mathlib.LinearAlgebra.Matrix.NonsingularInverse
import Mathlib.Tactic.Ring
import Mathlib.Tactic.LinearCombination
import Mathlib.Tactic.FinCases
import Mathlib.Data.Fintype.Basic

namespace WB.C25
open Matrix

structure PauliHyp {K : Type} [Field K] (conj : K →+* K) (I c s e : K) : Prop where
  hI : I * I = -1
  hcI : conj I = -I
  hc : conj c = c
  hs : conj s = s
  he : e * conj e = 1
  hcs : c * c + s * s = 1

/-- Levi-Civita symbol -/
def leviCivita (a b c : Fin 3) : Int :=
  match a.val, b.val, c.val with
  | 0, 1, 2 => 1
  | 1, 2, 0 => 1
  | 2, 0, 1 => 1
  | 0, 2, 1 => -1
  | 2, 1, 0 => -1
  | 1, 0, 2 => -1
  | _, _, _ => 0

variable {K : Type} [Field K] {conj : K →+* K} {I c s e : K}

/-! ### 2×2 matrices as Mathlib matrices -/

theorem mul2_eq (A B : M2 K) : of (mul2 A B) = of A * of B := by
  ext i j; simp only [mul2, mul_apply, Fin.sum_univ_two, of_apply]

theorem one2_eq : of (one2 : M2 K) = 1 := by
  ext i j; simp only [one2, of_apply, one_apply]

omit [Field K] in
theorem ext2 {A B : Matrix (Fin 2) (Fin 2) K} (h00 : A 0 0 = B 0 0) (h01 : A 0 1 = B 0 1) (h10 : A 1 0 = B 1 0)
    (h11 : A 1 1 = B 1 1) : A = B := by
  ext i j; fin_cases i <;> fin_cases j <;> assumption

def adj (conj : K → K) (A : M2 K) : Matrix (Fin 2) (Fin 2) K := of fun i j => conj (A j i)

theorem pauliRot_eq (comp : Fin 3) :
    of (pauliRot conj I c s e comp) = adj conj (Css c s e) * of (pauli I comp) * of (Css c s e) := by
  ext i j; simp only [pauliRot, adj, mul_apply, Fin.sum_univ_two, of_apply]; ring

/-! ### the Pauli matrices themselves -/

def sigmaDot (I : K) (u : Fin 3 → K) : Matrix (Fin 2) (Fin 2) K :=
  u 0 • of (pauli I 0) + u 1 • of (pauli I 1) + u 2 • of (pauli I 2)

theorem sigmaDot_apply (u : Fin 3 → K) (a b : Fin 2) :
    sigmaDot I u a b = u 0 * pauli I 0 a b + u 1 * pauli I 1 a b + u 2 * pauli I 2 a b := rfl

/-- `(u·σ)(v·σ) = (u·v) 1 + i (u×v)·σ` -/
theorem sigmaDot_mul (hI : I * I = -1) (u v : Fin 3 → K) :
    sigmaDot I u * sigmaDot I v = (u 0 * v 0 + u 1 * v 1 + u 2 * v 2) • 1
      + I • ((u 1 * v 2 - u 2 * v 1) • of (pauli I 0) + (u 2 * v 0 - u 0 * v 2) • of (pauli I 1)
              + (u 0 * v 1 - u 1 * v 0) • of (pauli I 2)) := by
  apply ext2 <;> simp only [mul_apply, Fin.sum_univ_two, sigmaDot_apply, Matrix.add_apply, Matrix.smul_apply,
    Matrix.one_apply, of_apply, smul_eq_mul] <;> simp [pauli]
  · linear_combination (-(u 1 * v 1)) * hI
  · linear_combination (u 2 * v 0 - u 0 * v 2) * hI
  · linear_combination (u 0 * v 2 - u 2 * v 0) * hI
  · linear_combination (-(u 1 * v 1)) * hI

theorem pauli_eq_sigmaDot (a : Fin 3) :
    of (pauli I a) = sigmaDot I (fun k => ((if k = a then 1 else 0 : ℤ) : K)) := by
  fin_cases a <;> simp [sigmaDot]

/-- scalar and vector products of unit vectors, with integer entries so that the table is one `decide` can check
    (`pauli_eq_sigmaDot` casts the same vectors into `K`) -/
theorem unit_dot_cross : ∀ a b : Fin 3,
    let u : Fin 3 → ℤ := fun k => if k = a then 1 else 0
    let v : Fin 3 → ℤ := fun k => if k = b then 1 else 0
    (u 0 * v 0 + u 1 * v 1 + u 2 * v 2 = if a = b then 1 else 0) ∧ u 1 * v 2 - u 2 * v 1 = leviCivita a b 0 ∧
      u 2 * v 0 - u 0 * v 2 = leviCivita a b 1 ∧ u 0 * v 1 - u 1 * v 0 = leviCivita a b 2 := by
  decide

/-- the vector identity at two unit vectors -/
theorem pauli_mul (hI : I * I = -1) (a b : Fin 3) :
    of (pauli I a) * of (pauli I b) = (if a = b then 1 else 0 : K) • 1
      + I • ((leviCivita a b 0 : K) • of (pauli I 0) + (leviCivita a b 1 : K) • of (pauli I 1)
              + (leviCivita a b 2 : K) • of (pauli I 2)) := by
  obtain ⟨h0, h1, h2, h3⟩ := unit_dot_cross a b
  have h0' := congrArg (Int.cast : ℤ → K) h0
  rw [pauli_eq_sigmaDot a, pauli_eq_sigmaDot b, sigmaDot_mul hI, ← h1, ← h2, ← h3]
  simp only [Int.cast_add, Int.cast_sub, Int.cast_mul, Int.cast_ite, Int.cast_one, Int.cast_zero] at h0' ⊢
  rw [h0']

theorem pauli_conj (hcI : conj I = -I) (comp : Fin 3) (a b : Fin 2) :
    conj (pauli I comp a b) = pauli I comp b a := by
  fin_cases comp <;> fin_cases a <;> fin_cases b <;> simp [pauli, hcI]

/-! ### `C_ss` -/

theorem PauliHyp.inv_e (h : PauliHyp conj I c s e) : e⁻¹ = conj e :=
  inv_eq_of_mul_eq_one_right h.he

theorem PauliHyp.conj_conj_e (h : PauliHyp conj I c s e) : conj (conj e) = e := by
  rw [← h.inv_e, map_inv₀, ← h.inv_e, inv_inv]

/-- entries of `C` and of `conj C` in terms of `e` and `f = conj e = e⁻¹` -/
theorem Css_entries (h : PauliHyp conj I c s e) :
    Css c s e 0 0 = c * e ∧ Css c s e 0 1 = -(s * e) ∧ Css c s e 1 0 = s * conj e ∧ Css c s e 1 1 = c * conj e := by
  refine ⟨rfl, rfl, ?_, ?_⟩
  · show s / e = _; rw [div_eq_mul_inv, h.inv_e]
  · show c / e = _; rw [div_eq_mul_inv, h.inv_e]

theorem conj_Css_entries (h : PauliHyp conj I c s e) :
    conj (Css c s e 0 0) = c * conj e ∧ conj (Css c s e 0 1) = -(s * conj e) ∧
    conj (Css c s e 1 0) = s * e ∧ conj (Css c s e 1 1) = c * e := by
  obtain ⟨h00, h01, h10, h11⟩ := Css_entries h
  rw [h00, h01, h10, h11]
  simp only [map_mul, map_neg, h.hc, h.hs, h.conj_conj_e, and_self]

theorem conj_conj_Css (h : PauliHyp conj I c s e) (a b : Fin 2) : conj (conj (Css c s e a b)) = Css c s e a b := by
  obtain ⟨h00, h01, h10, h11⟩ := Css_entries h
  fin_cases a <;> fin_cases b <;>
    simp only [Fin.zero_eta, Fin.mk_one, Fin.isValue, h00, h01, h10, h11, map_mul, map_neg, h.hc, h.hs, h.conj_conj_e]

theorem Css_adj_mul (h : PauliHyp conj I c s e) : adj conj (Css c s e) * of (Css c s e) = 1 := by
  obtain ⟨h00, h01, h10, h11⟩ := Css_entries h
  obtain ⟨k00, k01, k10, k11⟩ := conj_Css_entries h
  have he := h.he
  have hcs := h.hcs
  apply ext2 <;> simp only [adj, mul_apply, Fin.sum_univ_two, of_apply, Matrix.one_apply, k00, k01, k10, k11] <;>
    simp only [h00, h01, h10, h11, Fin.isValue, Fin.reduceEq, ↓reduceIte]
  · linear_combination (c * c + s * s) * he + hcs
  · ring
  · ring
  · linear_combination (c * c + s * s) * he + hcs

theorem Css_mul_adj (h : PauliHyp conj I c s e) : of (Css c s e) * adj conj (Css c s e) = 1 :=
  mul_eq_one_comm.1 (Css_adj_mul h)

theorem pauliRot_mul (h : PauliHyp conj I c s e) (a b : Fin 3) :
    of (pauliRot conj I c s e a) * of (pauliRot conj I c s e b)
      = adj conj (Css c s e) * (of (pauli I a) * of (pauli I b)) * of (Css c s e) := by
  simp only [pauliRot_eq, Matrix.mul_assoc]
  rw [← Matrix.mul_assoc (of (Css c s e)), Css_mul_adj h, Matrix.one_mul]

/-- the columns of `C` are the eigenvectors of `n·σ` for the eigenvalues `+1`, `−1`:  `(n·σ) C = C σ_z` -/
theorem Css_axis_eigen (h : PauliHyp conj I c s e) :
    sigmaDot I (axis conj I c s e) * of (Css c s e) = of (Css c s e) * of (pauli I 2) := by
  obtain ⟨h00, h01, h10, h11⟩ := Css_entries h
  -- `axis` divides by 2; the identity also holds in characteristic 2, where both sides lose those terms
  have h2 : (2 : K) * 2⁻¹ = 1 ∨ (2 : K) = 0 := by
    by_cases h2 : (2 : K) = 0
    · exact Or.inr h2
    · exact Or.inl (mul_inv_cancel₀ h2)
  -- each entry is field arithmetic from `e ē = 1`, `c² + s² = 1`, `I² = −1` and `h2`
  apply ext2 <;> simp only [mul_apply, Fin.sum_univ_two, sigmaDot_apply, of_apply, h00, h01, h10, h11] <;>
    simp [pauli, axis, div_eq_mul_inv] <;> grind [h.he, h.hcs, h.hI]

end WB.C25
