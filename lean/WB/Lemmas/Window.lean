/-
  Helper lemmas for `select_window_degen` (C15).  Two neighbouring bands are *linked* when `E (i+1) - E i < th`;
  `downChain`/`upChain` walk along links, so a link is never the lower end of a down-chain nor the upper end of an
  up-chain.  Then `firstIn`/`lastIn`, and what `selectWindow` selects for sorted energies.
-/
import WB.Model.C15
import Mathlib.Data.List.Basic
import Mathlib.Algebra.Order.Ring.Rat

namespace WB.C15

theorem find?_reverse_range_succ (p : Nat → Bool) (n : Nat) :
    (List.range (n + 1)).reverse.find? p = if p n = true then some n else (List.range n).reverse.find? p := by
  rw [List.range_succ, List.reverse_append, List.reverse_singleton, List.singleton_append, List.find?_cons]
  cases p n <;> rfl

variable (E : Nat → Rat) (th : Rat)

theorem downChain_le : ∀ i, downChain E th i ≤ i
  | 0 => Nat.le_refl 0
  | i + 1 => by
    unfold downChain; split
    · exact Nat.le_succ_of_le (downChain_le i)
    · exact le_refl _

theorem downChain_ne_succ {i : Nat} (h : E (i + 1) - E i < th) : ∀ k, downChain E th k ≠ i + 1
  | 0 => (Nat.succ_ne_zero i).symm
  | k + 1 => by
    unfold downChain; split
    · exact downChain_ne_succ h k
    · rename_i hc
      intro hk
      obtain rfl : k = i := Nat.succ.inj hk
      exact hc h

theorem downChain_le_succ_iff {i : Nat} (h : E (i + 1) - E i < th) (k : Nat) :
    downChain E th k ≤ i + 1 ↔ downChain E th k ≤ i :=
  ⟨fun h' => Nat.le_of_lt_succ (lt_of_le_of_ne h' (downChain_ne_succ E th h k)), Nat.le_succ_of_le⟩

theorem upChainAux_ge (n : Nat) : ∀ fuel i, i ≤ upChainAux E th n fuel i
  | 0, i => Nat.le_refl i
  | fuel + 1, i => by
    unfold upChainAux; split
    · exact Nat.le_of_succ_le (upChainAux_ge n fuel (i + 1))
    · exact le_refl _

theorem upChainAux_lt (n : Nat) : ∀ fuel i, i < n → upChainAux E th n fuel i < n
  | 0, i, h => by simpa [upChainAux] using h
  | fuel + 1, i, h => by
    unfold upChainAux; split
    · rename_i hc; exact upChainAux_lt n fuel (i + 1) hc.1
    · exact h

theorem upChainAux_ne {n i : Nat} (hi : i + 1 < n) (h : E (i + 1) - E i < th) :
    ∀ fuel k, n ≤ k + fuel → upChainAux E th n fuel k ≠ i
  | 0, k, hf => (lt_of_lt_of_le (Nat.lt_of_succ_lt hi) hf).ne'
  | fuel + 1, k, hf => by
    unfold upChainAux; split
    · exact upChainAux_ne hi h fuel (k + 1) (by rwa [Nat.add_right_comm])
    · rename_i hc
      rintro rfl
      exact hc ⟨hi, h⟩

theorem upChain_ge (n i : Nat) : i ≤ upChain E th n i := upChainAux_ge E th n n i

theorem succ_le_upChain_iff {n i : Nat} (hi : i + 1 < n) (h : E (i + 1) - E i < th) (k : Nat) :
    i + 1 ≤ upChain E th n k ↔ i ≤ upChain E th n k :=
  ⟨Nat.le_of_succ_le, fun h' => lt_of_le_of_ne h' (upChainAux_ne E th hi h n k (by omega)).symm⟩

/-! ### first / last index inside the window -/

variable (wmin wmax : Rat)

theorem firstIn_some {n lo : Nat} (h : firstIn E wmin wmax n = some lo) :
    lo < n ∧ inWindow E wmin wmax lo = true ∧ ∀ k, k < lo → inWindow E wmin wmax k = false := by
  unfold firstIn at h
  refine ⟨?_, ?_, ?_⟩
  · have := List.mem_of_find?_eq_some h; simpa using this
  · exact List.find?_some h
  · intro k hk
    rw [List.find?_range_eq_some] at h
    have := h.2.2 k hk
    simpa using this

theorem lastIn_some : ∀ {n hi : Nat}, lastIn E wmin wmax n = some hi →
    hi < n ∧ inWindow E wmin wmax hi = true ∧ ∀ k, hi < k → k < n → inWindow E wmin wmax k = false
  | 0, _, h => by simp [lastIn] at h
  | n + 1, hi, h => by
    rw [lastIn, find?_reverse_range_succ] at h
    split at h
    · rename_i hn
      obtain rfl := Option.some.inj h
      exact ⟨Nat.lt_succ_self _, hn, fun k h1 h2 => by omega⟩
    · rename_i hn
      obtain ⟨h1, h2, h3⟩ := lastIn_some h
      refine ⟨Nat.lt_succ_of_lt h1, h2, fun k hk hkn => ?_⟩
      rcases Nat.lt_succ_iff_lt_or_eq.1 hkn with hlt | rfl
      · exact h3 k hk hlt
      · exact Bool.eq_false_iff.2 hn

theorem inWindow_iff_between {n lo hi : Nat}
    (hsorted : ∀ i j, i ≤ j → j < n → E i ≤ E j)
    (hlo : firstIn E wmin wmax n = some lo) (hhi : lastIn E wmin wmax n = some hi)
    (k : Nat) (hk : k < n) : inWindow E wmin wmax k = true ↔ lo ≤ k ∧ k ≤ hi := by
  obtain ⟨_, hloin, hlof⟩ := firstIn_some E wmin wmax hlo
  obtain ⟨hhin, hhiin, hhif⟩ := lastIn_some E wmin wmax hhi
  refine ⟨fun h => ⟨not_lt.1 fun hc => ?_, not_lt.1 fun hc => ?_⟩, fun ⟨h1, h2⟩ => ?_⟩
  · exact Bool.false_ne_true ((hlof k hc).symm.trans h)
  · exact Bool.false_ne_true ((hhif k hc hk).symm.trans h)
  · unfold inWindow at hloin hhiin ⊢
    simp only [Bool.and_eq_true, decide_eq_true_eq, ge_iff_le] at hloin hhiin ⊢
    exact ⟨le_trans (hsorted k hi h2 hhin) hhiin.1, le_trans hloin.2 (hsorted lo k h1 hk)⟩

theorem firstIn_le_lastIn {n lo hi : Nat}
    (hlo : firstIn E wmin wmax n = some lo) (hhi : lastIn E wmin wmax n = some hi) : lo ≤ hi :=
  not_lt.1 fun hc => Bool.false_ne_true
    (((firstIn_some E wmin wmax hlo).2.2 hi hc).symm.trans (lastIn_some E wmin wmax hhi).2.1)

theorem selectWindow_include_superset_aux (n j : Nat) (hj : j < n)
    (hin : inWindow E wmin wmax j = true) :
    selectWindow E th wmin wmax n true j = true := by
  have h1 : (firstIn E wmin wmax n).isSome := List.find?_isSome.2 ⟨j, List.mem_range.2 hj, hin⟩
  have h2 : (lastIn E wmin wmax n).isSome :=
    List.find?_isSome.2 ⟨j, List.mem_reverse.2 (List.mem_range.2 hj), hin⟩
  obtain ⟨lo, hlo⟩ := Option.isSome_iff_exists.1 h1
  obtain ⟨hi, hhi⟩ := Option.isSome_iff_exists.1 h2
  simp [selectWindow, hlo, hhi, hin]

section sorted
variable {n lo hi : Nat} (hsorted : ∀ i j, i ≤ j → j < n → E i ≤ E j)
    (hlo : firstIn E wmin wmax n = some lo) (hhi : lastIn E wmin wmax n = some hi)
include hsorted hlo hhi

theorem selectWindow_true_iff {j : Nat} (hj : j < n) :
    selectWindow E th wmin wmax n true j = true ↔ downChain E th lo ≤ j ∧ j ≤ upChain E th n hi := by
  have h1 := firstIn_le_lastIn E wmin wmax hlo hhi
  have h2 := downChain_le E th lo
  have h3 := upChain_ge E th n hi
  simp only [selectWindow, hlo, hhi, ↓reduceIte, Bool.or_eq_true, Bool.and_eq_true, decide_eq_true_eq,
    inWindow_iff_between E wmin wmax hsorted hlo hhi j hj]
  omega

/-- `lo..hi` without the chain of `lo` (if it goes on below `lo`) and the chain of `hi` (if it goes on above `hi`) -/
theorem selectWindow_false_iff {j : Nat} (hj : j < n) :
    selectWindow E th wmin wmax n false j = true ↔
      (lo ≤ j ∧ ¬ (downChain E th lo < lo ∧ j ≤ upChain E th n lo)) ∧
      (j ≤ hi ∧ ¬ (hi < upChain E th n hi ∧ downChain E th hi ≤ j)) := by
  simp only [selectWindow, hlo, hhi, Bool.false_eq_true, ↓reduceIte, Bool.and_eq_true, Bool.not_eq_true',
    Bool.and_eq_false_iff, decide_eq_false_iff_not, inWindow_iff_between E wmin wmax hsorted hlo hhi j hj]
  omega

end sorted

end WB.C15
