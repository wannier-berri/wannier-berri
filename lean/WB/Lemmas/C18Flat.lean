/-
  Shared by C18 and C19: index arithmetic of nested writer loops (`flatMap` over ranges with blocks of constant
  length), the 15-per-line integer header, the even/odd row split, lookup in an association list (`dirGet`),
  insertion loops that meet no duplicate.
-/
import WB.Model.C18
import Mathlib.Data.List.Basic
import Mathlib.Data.List.GetD

namespace WB.C18

/-! ### blocks of constant length -/

theorem mul_add_lt_mul {n c i j : Nat} (hi : i < n) (hj : j < c) : i * c + j < n * c :=
  calc i * c + j < i * c + c := Nat.add_lt_add_left hj _
    _ = (i + 1) * c := (Nat.succ_mul i c).symm
    _ ≤ n * c := Nat.mul_le_mul_right c hi

theorem length_flatMap_range_const {α} (f : Nat → List α) (c : Nat) (hf : ∀ i, (f i).length = c) :
    ∀ n, ((List.range n).flatMap f).length = n * c
  | 0 => (Nat.zero_mul c).symm
  | n + 1 => by
    rw [List.range_succ, List.flatMap_append, List.length_append, length_flatMap_range_const f c hf n,
      List.flatMap_singleton, hf, Nat.succ_mul]

theorem getD_flatMap_range_const_append {α} (f : Nat → List α) (c : Nat) (hf : ∀ i, (f i).length = c) (d : α) :
    ∀ (n : Nat) (rest : List α) (i j : Nat), i < n → j < c →
      ((List.range n).flatMap f ++ rest).getD (i * c + j) d = (f i).getD j d
  | 0, _, _, _, hi, _ => absurd hi (Nat.not_lt_zero _)
  | n + 1, rest, i, j, hi, hj => by
    rw [List.range_succ, List.flatMap_append, List.flatMap_singleton, List.append_assoc]
    rcases Nat.lt_succ_iff_lt_or_eq.mp hi with h | rfl
    · exact getD_flatMap_range_const_append f c hf d n _ i j h hj
    · have hlen := length_flatMap_range_const f c hf i
      rw [List.getD_append_right _ _ _ _ (hlen ▸ Nat.le_add_right _ _), hlen, Nat.add_sub_cancel_left,
        List.getD_append _ _ _ _ ((hf i).symm ▸ hj)]

theorem getD_flatMap_range_const {α} (f : Nat → List α) (c : Nat) (hf : ∀ i, (f i).length = c) (d : α)
    (n i j : Nat) (hi : i < n) (hj : j < c) : ((List.range n).flatMap f).getD (i * c + j) d = (f i).getD j d := by
  rw [← getD_flatMap_range_const_append f c hf d n [] i j hi hj, List.append_nil]

theorem flatMap_range_congr {α} {f g : Nat → List α} {n : Nat} (h : ∀ i, i < n → f i = g i) :
    (List.range n).flatMap f = (List.range n).flatMap g :=
  List.flatMap_congr (fun i hi => h i (List.mem_range.1 hi))

theorem length_flatMap_map_range {α} (g : Nat → Nat → α) (n m : Nat) :
    ((List.range n).flatMap fun i => (List.range m).map (g i)).length = n * m :=
  length_flatMap_range_const _ m (fun _ => by rw [List.length_map, List.length_range]) n

theorem getD_flatMap_map_range {α} (g : Nat → Nat → α) (d : α) (n m i j : Nat) (hi : i < n) (hj : j < m) :
    ((List.range n).flatMap fun i => (List.range m).map (g i)).getD (i * m + j) d = g i j := by
  rw [getD_flatMap_range_const _ m (fun _ => by rw [List.length_map, List.length_range]) d n i j hi hj,
    List.getD_eq_getElem?_getD, List.getElem?_map, List.getElem?_range hj]
  rfl

variable {V : Type}

theorem length_nestNM (nw : Nat) (f : Nat → Nat → Line V) : (nestNM nw f).length = nw * nw :=
  length_flatMap_map_range _ nw nw

theorem getD_nestNM (nw : Nat) (f : Nat → Nat → Line V) (a b : Nat) (ha : a < nw) (hb : b < nw) :
    (nestNM nw f).getD (a * nw + b) [] = f b a :=
  getD_flatMap_map_range _ [] nw nw a b ha hb

/-! ### the integer header -/

theorem toInt_int_map (l : List Int) : (l.map (Tok.int (V := V))).map Tok.toInt = l := by
  induction l with
  | nil => rfl
  | cons a t ih => simp [Tok.toInt, ih]

theorem readInts_of_le (n : Nat) (f : File V) (acc : List Int) (h : n ≤ acc.length) :
    readInts n f acc = (acc, f) := by
  cases f with
  | nil => rfl
  | cons l t => rw [readInts, if_neg (Nat.not_lt.mpr h)]

/-- the state of the reader's loop after `j` of the header lines: `15 * j` integers read -/
private theorem readInts_aux (l : List Int) (rest : File V) :
    ∀ len j, j + len = (l.length + 14) / 15 →
      readInts l.length
        ((List.range' j len).map (fun i => ((l.drop (15 * i)).take 15).map (Tok.int (V := V))) ++ rest)
        (l.take (15 * j)) = (l, rest)
  | 0, j, h => by
    rw [List.range'_zero, List.map_nil, List.nil_append, List.take_of_length_le (by omega)]
    exact readInts_of_le _ _ _ (Nat.le_refl _)
  | len + 1, j, h => by
    have hlt : (l.take (15 * j)).length < l.length := by
      rw [List.length_take]; omega
    rw [List.range'_succ, List.map_cons, List.cons_append, readInts, if_pos hlt, toInt_int_map, ← List.take_add,
      ← Nat.mul_succ]
    exact readInts_aux l rest len (j + 1) (by omega)

theorem readInts_chunks15 (l : List Int) (rest : File V) {n : Nat} (hn : l.length = n) :
    readInts n (chunks15 l ++ rest) [] = (l, rest) := by
  subst hn
  have := readInts_aux l rest ((l.length + 14) / 15) 0 (Nat.zero_add _)
  rwa [← List.range_eq_range'] at this

/-! ### even / odd rows -/

theorem evens_odds_cons {α} (a : α) : ∀ l : List α, evens (a :: l) = a :: odds l ∧ odds (a :: l) = evens l
  | [] => ⟨rfl, rfl⟩
  | b :: t => ⟨congrArg (a :: ·) (evens_odds_cons b t).2.symm, (evens_odds_cons b t).1.symm⟩

theorem length_evens_odds {α} : ∀ l : List α, (evens l).length = (l.length + 1) / 2 ∧ (odds l).length = l.length / 2
  | [] => ⟨(Nat.div_eq_of_lt Nat.one_lt_two).symm, (Nat.zero_div 2).symm⟩
  | a :: t => by
    obtain ⟨he, ho⟩ := evens_odds_cons a t
    obtain ⟨ihe, iho⟩ := length_evens_odds t
    rw [he, ho, List.length_cons, List.length_cons, ihe, iho]
    omega

theorem getD_evens_odds {α} (d : α) : ∀ (l : List α) (j : Nat),
    (evens l).getD j d = l.getD (2 * j) d ∧ (odds l).getD j d = l.getD (2 * j + 1) d
  | [], _ => ⟨rfl, rfl⟩
  | a :: t, j => by
    obtain ⟨he, ho⟩ := evens_odds_cons a t
    rw [he, ho, List.getD_cons_succ, (getD_evens_odds d t j).1]
    refine ⟨?_, rfl⟩
    cases j with
    | zero => rfl
    | succ j => rw [List.getD_cons_succ, (getD_evens_odds d t j).2, Nat.mul_succ, List.getD_cons_succ]

theorem map_evens_odds {α β} (f : α → β) : ∀ l : List α,
    evens (l.map f) = (evens l).map f ∧ odds (l.map f) = (odds l).map f
  | [] => ⟨rfl, rfl⟩
  | a :: t => by
    obtain ⟨he, ho⟩ := evens_odds_cons a t
    obtain ⟨he', ho'⟩ := evens_odds_cons (f a) (t.map f)
    obtain ⟨ihe, iho⟩ := map_evens_odds f t
    rw [List.map_cons, he', ho', he, ho, ihe, iho]
    exact ⟨rfl, rfl⟩

theorem map_range_eq_of_getD {α} (d : α) (l : List α) (g : Nat → α) (h : ∀ i, i < l.length → g i = l.getD i d) :
    (List.range l.length).map g = l := by
  refine List.ext_getElem (by rw [List.length_map, List.length_range]) (fun i _ h2 => ?_)
  rw [List.getElem_map, List.getElem_range, h i h2, List.getD_eq_getElem _ _ h2]

/-- `data_2[::2] = data[:nhalf]`, `data_2[1::2] = data[nhalf:]` with `nhalf` the number of even rows -/
theorem interleave_evens_odds {α} (d : α) (l : List α) :
    (List.range l.length).map (fun i =>
      if i % 2 = 0 then (evens l ++ odds l).getD (i / 2) d
      else (evens l ++ odds l).getD ((l.length + 1) / 2 + i / 2) d) = l := by
  refine map_range_eq_of_getD d l _ (fun i hi => ?_)
  obtain ⟨hel, -⟩ := length_evens_odds l
  obtain ⟨hge, hgo⟩ := getD_evens_odds d l (i / 2)
  by_cases hev : i % 2 = 0
  · rw [if_pos hev, List.getD_append _ _ _ _ (by omega), hge]
    congr 1; omega
  · rw [if_neg hev, List.getD_append_right _ _ _ _ (by omega), hel, Nat.add_sub_cancel_left, hgo]
    congr 1; omega

/-! ### lookup in an association list -/

variable {A : Type}

theorem dirGet_cons (p : Name × A) (l : List (Name × A)) (k : Name) :
    dirGet (p :: l) k = if p.1 = k then some p.2 else dirGet l k := by
  unfold dirGet
  rw [List.find?_cons]
  by_cases h : p.1 = k <;> simp only [h, beq_self_eq_true, if_true, if_false, Option.map_some]
  · rw [beq_eq_false_iff_ne.2 h]

theorem dirGet_append (l1 l2 : List (Name × A)) (k : Name) :
    dirGet (l1 ++ l2) k = (dirGet l1 k).or (dirGet l2 k) := by
  induction l1 with
  | nil => simp [dirGet]
  | cons p t ih =>
    rw [List.cons_append, dirGet_cons, dirGet_cons, ih]
    by_cases h : p.1 = k <;> simp [h]

theorem dirGet_mem {l : List (Name × A)} {k : Name} {a : A} (h : dirGet l k = some a) : (k, a) ∈ l := by
  obtain ⟨q, hq, rfl⟩ := Option.map_eq_some_iff.1 h
  obtain rfl : q.1 = k := eq_of_beq (List.find?_some (p := fun p : Name × A => p.1 == k) hq)
  exact List.mem_of_find?_eq_some hq

theorem dirGet_eq_none {l : List (Name × A)} {k : Name} : dirGet l k = none ↔ ∀ p ∈ l, p.1 ≠ k := by
  simp only [dirGet, Option.map_eq_none_iff, List.find?_eq_none, beq_iff_eq, ne_eq]

theorem dirGet_isSome_of_mem {l : List (Name × A)} {k : Name} (h : k ∈ l.map (·.1)) : (dirGet l k).isSome := by
  obtain ⟨p, hp, rfl⟩ := List.mem_map.1 h
  exact Option.isSome_iff_ne_none.2 (fun hn => dirGet_eq_none.1 hn p hp rfl)

/-! ### insertion loops that meet no duplicate -/

theorem foldl_eq_append {α} (g : List α → α → List α) (R : α → α → Prop)
    (hg : ∀ acc x, (∀ y ∈ acc, R y x) → g acc x = acc ++ [x]) :
    ∀ l acc : List α, (acc ++ l).Pairwise R → l.foldl g acc = acc ++ l
  | [], acc, _ => (List.append_nil acc).symm
  | x :: t, acc, h => by
    rw [List.foldl_cons, hg acc x (fun y hy => (List.pairwise_append.mp h).2.2 y hy x List.mem_cons_self),
      foldl_eq_append g R hg t (acc ++ [x]) (by rwa [← List.append_cons]), ← List.append_cons]

end WB.C18
