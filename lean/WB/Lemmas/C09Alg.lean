/-
  C09: the algebra of the written-out 3x3 operations, proved by expansion, and how `PSym.mk'` / `PSym.mul` keep
  (proper part, inversion flag, time-reversal flag).
-/
import WB.Model.C09
import Mathlib.Algebra.BigOperators.Fin
import Mathlib.Algebra.Order.Field.Basic
import Mathlib.Tactic.Ring
import Mathlib.Tactic.FinCases

set_option linter.unusedSectionVars false

namespace WB.C09

section Ring
variable {F : Type} [CommRing F]

theorem freeze_eq (A : Mat F) : freeze A = A := by
  funext i j
  fin_cases i <;> fin_cases j <;> rfl

theorem sum3_eq_sum (f : Fin 3 → F) : sum3 f = ∑ i, f i := by
  rw [Fin.sum_univ_three]; rfl

theorem sum3_ite_left (i : Fin 3) (f : Fin 3 → F) : sum3 (fun k => (if i = k then 1 else 0) * f k) = f i := by
  rw [sum3_eq_sum]; simp

theorem sum3_ite_right (j : Fin 3) (f : Fin 3 → F) : sum3 (fun k => f k * (if k = j then 1 else 0)) = f j := by
  rw [sum3_eq_sum]; simp

theorem matMul_assoc (A B C : Mat F) : matMul (matMul A B) C = matMul A (matMul B C) := by
  funext i j; simp only [matMul, sum3]; ring

theorem matMul_id_left (A : Mat F) : matMul (matId : Mat F) A = A := by
  funext i j; exact sum3_ite_left i fun k => A k j

theorem matMul_id_right (A : Mat F) : matMul A (matId : Mat F) = A := by
  funext i j; exact sum3_ite_right j fun k => A i k

theorem det3_matMul (A B : Mat F) : det3 (matMul A B) = det3 A * det3 B := by
  simp only [det3, matMul, sum3]; ring

theorem det3_matScale (A : Mat F) (c : F) : det3 (matScale A c) = c ^ 3 * det3 A := by
  unfold det3 matScale; ring

theorem det3_matId : det3 (matId : Mat F) = 1 := by
  simp [det3, matId]

theorem det3_matT (A : Mat F) : det3 (matT A) = det3 A := by
  unfold det3 matT; ring

theorem sgn_mul_self (b : Bool) : (sgn b : F) * sgn b = 1 := by
  cases b <;> simp [sgn]

theorem sgn_xor (a b : Bool) : (sgn (a != b) : F) = sgn a * sgn b := by
  cases a <;> cases b <;> simp [sgn]

theorem sgn_cube (b : Bool) : (sgn b : F) ^ 3 = sgn b := by
  cases b <;> simp [sgn]; ring

theorem matScale_matScale (A : Mat F) (c d : F) : matScale (matScale A c) d = matScale A (c * d) := by
  funext i j; simp [matScale, mul_assoc]

theorem matScale_one (A : Mat F) : matScale A 1 = A := by
  funext i j; simp [matScale]

theorem matMul_matScale (A B : Mat F) (c d : F) :
    matMul (matScale A c) (matScale B d) = matScale (matMul A B) (c * d) := by
  funext i j; simp only [matMul, matScale, sum3]; ring

theorem matMul_matScale_right (A B : Mat F) (c : F) : matMul A (matScale B c) = matScale (matMul A B) c := by
  simpa only [matScale_one, one_mul] using matMul_matScale A B 1 c

theorem matMul_matScale_left (A B : Mat F) (c : F) : matMul (matScale A c) B = matScale (matMul A B) c := by
  simpa only [matScale_one, mul_one] using matMul_matScale A B c 1

theorem matVec_matMul (A B : Mat F) (v : Vec F) : matVec (matMul A B) v = matVec A (matVec B v) := by
  funext i; simp only [matVec, matMul, sum3]; ring

theorem vecMat_matMul (A B : Mat F) (v : Vec F) : vecMat v (matMul A B) = vecMat (vecMat v A) B := by
  funext i; simp only [vecMat, matMul, sum3]; ring

theorem matT_matMul (A B : Mat F) : matT (matMul A B) = matMul (matT B) (matT A) := by
  funext i j; simp only [matT, matMul, sum3]; ring

theorem matT_matId : matT (matId : Mat F) = matId := by
  funext i j; simp only [matT, matId, eq_comm]

theorem matT_matScale (A : Mat F) (c : F) : matT (matScale A c) = matScale (matT A) c := rfl

theorem adj3_matT (A : Mat F) : adj3 (matT A) = matT (adj3 A) := by
  funext i j; simp only [adj3, matT]; ring

theorem matMul_adj3 (A : Mat F) : matMul A (adj3 A) = matScale matId (det3 A) := by
  funext i j
  fin_cases i <;> fin_cases j <;>
    (simp only [matMul, adj3, matScale, matId, det3, sum3, Fin.isValue, Fin.reduceEq, Fin.reduceAdd, reduceIte,
      Fin.zero_eta, Fin.mk_one, Fin.reduceFinMk]; ring)

theorem adj3_matMul (A : Mat F) : matMul (adj3 A) A = matScale matId (det3 A) := by
  have h := congrArg matT (matMul_adj3 (matT A))
  rwa [matT_matMul, adj3_matT, det3_matT, matT_matScale, matT_matId] at h

end Ring

section Field
variable {F : Type} [Field F]

theorem matInv_eq (A : Mat F) : matInv A = matScale (adj3 A) (det3 A)⁻¹ := by
  funext i j; exact div_eq_mul_inv _ _

theorem matMul_matInv (A : Mat F) (h : det3 A ≠ 0) : matMul A (matInv A) = matId := by
  rw [matInv_eq, matMul_matScale_right, matMul_adj3, matScale_matScale, mul_inv_cancel₀ h, matScale_one]

theorem matInv_matMul (A : Mat F) (h : det3 A ≠ 0) : matMul (matInv A) A = matId := by
  rw [matInv_eq, matMul_matScale_left, adj3_matMul, matScale_matScale, mul_inv_cancel₀ h, matScale_one]

theorem matMul_left_cancel (A B C : Mat F) (h : det3 A ≠ 0) (e : matMul A B = matMul A C) : B = C := by
  have := congrArg (matMul (matInv A)) e
  rwa [← matMul_assoc, ← matMul_assoc, matInv_matMul A h, matMul_id_left, matMul_id_left] at this

theorem matInv_eq_of_matMul_eq_id (A X : Mat F) (h : matMul A X = matId) : matInv A = X := by
  have hd : det3 A ≠ 0 := fun h0 => by
    have := congrArg det3 h
    rw [det3_matMul, h0, zero_mul, det3_matId] at this
    exact zero_ne_one this
  exact matMul_left_cancel A _ _ hd (by rw [matMul_matInv A hd, h])

end Field

section Ordered
variable {F : Type} [Field F] [LinearOrder F] [IsStrictOrderedRing F]

/-- an operation as `__init__` leaves it: the stored part is a proper matrix -/
def PSym.Proper (g : PSym F) : Prop := 0 < det3 g.R

attribute [ext] PSym

theorem sgn_ne_zero (b : Bool) : (sgn b : F) ≠ 0 := by
  cases b <;> simp [sgn]

theorem PSym.mk'_tr (M : Mat F) (tr : Bool) : (PSym.mk' M tr).tr = tr := rfl

theorem PSym.mk'_inv (M : Mat F) (tr : Bool) : (PSym.mk' M tr).inv = decide (det3 M < 0) := rfl

theorem PSym.mk'_R (M : Mat F) (tr : Bool) : (PSym.mk' M tr).R = matScale M (sgn (decide (det3 M < 0))) :=
  freeze_eq _

theorem PSym.full_mk' (M : Mat F) (tr : Bool) : (PSym.mk' M tr).full = M := by
  rw [PSym.full, PSym.mk'_R, PSym.mk'_inv, matScale_matScale, sgn_mul_self, matScale_one]

theorem PSym.mk'_proper (M : Mat F) (tr : Bool) (h : det3 M ≠ 0) : (PSym.mk' M tr).Proper := by
  unfold PSym.Proper
  rw [PSym.mk'_R, det3_matScale, sgn_cube]
  rcases lt_or_gt_of_ne h with hneg | hpos
  · simp [hneg, sgn]
  · simpa [not_lt.2 hpos.le, sgn] using hpos

theorem PSym.det_full (g : PSym F) : det3 g.full = sgn g.inv * det3 g.R := by
  rw [PSym.full, det3_matScale, sgn_cube]

theorem PSym.det_full_ne_zero (g : PSym F) (h : g.Proper) : det3 g.full ≠ 0 :=
  g.det_full ▸ mul_ne_zero (sgn_ne_zero _) h.ne'

/-- The sign of the determinant of the full matrix is the inversion flag; all bookkeeping of `inv` below rests on this. -/
theorem PSym.mk'_full_eq_self (g : PSym F) (h : g.Proper) : PSym.mk' g.full g.tr = g := by
  have hd : decide (det3 g.full < 0) = g.inv := by
    unfold PSym.Proper at h
    rw [PSym.det_full]
    cases g.inv <;> simp [sgn, h, h.le]
  ext1
  · rw [PSym.mk'_R, hd, PSym.full, matScale_matScale, sgn_mul_self, matScale_one]
  · exact hd
  · rfl

theorem PSym.mk'_of_pos (M : Mat F) (tr : Bool) (h : 0 < det3 M) : PSym.mk' M tr = ⟨M, false, tr⟩ := by
  simpa [PSym.full, sgn, matScale_one] using PSym.mk'_full_eq_self ⟨M, false, tr⟩ h

theorem PSym.mul_eq (a b : PSym F) : a.mul b = PSym.mk' (matMul a.full b.full) (a.tr != b.tr) := by
  unfold PSym.mul PSym.full
  rw [matMul_matScale]

theorem PSym.full_mul (a b : PSym F) : (a.mul b).full = matMul a.full b.full := by
  rw [PSym.mul_eq, PSym.full_mk']

theorem PSym.tr_mul (a b : PSym F) : (a.mul b).tr = (a.tr != b.tr) := rfl

theorem PSym.mul_assoc (a b c : PSym F) : (a.mul b).mul c = a.mul (b.mul c) := by
  rw [PSym.mul_eq (a.mul b) c, PSym.mul_eq a (b.mul c), PSym.full_mul, PSym.full_mul, matMul_assoc,
    PSym.tr_mul, PSym.tr_mul]
  congr 1
  cases a.tr <;> cases b.tr <;> cases c.tr <;> rfl

theorem PSym.mul_proper (a b : PSym F) (ha : a.Proper) (hb : b.Proper) : (a.mul b).Proper := by
  rw [PSym.mul_eq]
  apply PSym.mk'_proper
  rw [det3_matMul]
  exact mul_ne_zero (a.det_full_ne_zero ha) (b.det_full_ne_zero hb)

theorem PSym.mul_of_proper (a b : PSym F) (ha : a.Proper) (hb : b.Proper) :
    a.mul b = ⟨matMul a.R b.R, a.inv != b.inv, a.tr != b.tr⟩ := by
  have hp : PSym.Proper (⟨matMul a.R b.R, a.inv != b.inv, a.tr != b.tr⟩ : PSym F) := by
    unfold PSym.Proper; rw [det3_matMul]; exact mul_pos ha hb
  rw [← PSym.mk'_full_eq_self _ hp, PSym.mul_eq, PSym.full, PSym.full, PSym.full, matMul_matScale, sgn_xor]

theorem PSym.identity_eq : (PSym.identity : PSym F) = ⟨matId, false, false⟩ :=
  PSym.mk'_of_pos _ _ (det3_matId (F := F) ▸ zero_lt_one)

theorem PSym.identity_proper : (PSym.identity : PSym F).Proper := by
  rw [PSym.identity_eq]; unfold PSym.Proper; rw [det3_matId]; exact zero_lt_one

theorem PSym.identity_full : (PSym.identity : PSym F).full = matId := PSym.full_mk' _ _

theorem PSym.mul_identity (a : PSym F) (ha : a.Proper) : a.mul PSym.identity = a := by
  rw [PSym.mul_eq, PSym.identity_full, matMul_id_right]
  simpa [PSym.identity_eq] using PSym.mk'_full_eq_self a ha

theorem PSym.identity_mul (a : PSym F) (ha : a.Proper) : (PSym.identity : PSym F).mul a = a := by
  rw [PSym.mul_eq, PSym.identity_full, matMul_id_left]
  simpa [PSym.identity_eq] using PSym.mk'_full_eq_self a ha

theorem PSym.eqv_iff (a b : PSym F) : a.eqv b = true ↔ a = b := by
  simp only [PSym.eqv, matEq, Bool.and_eq_true, List.all_eq_true, List.mem_finRange, forall_const,
    decide_eq_true_eq, beq_iff_eq, PSym.ext_iff, funext_iff]
  tauto

theorem PSym.mul_left_cancel (g a b : PSym F) (hg : g.Proper) (ha : a.Proper) (hb : b.Proper)
    (e : g.mul a = g.mul b) : a = b := by
  have hf : a.full = b.full := by
    apply matMul_left_cancel _ _ _ (g.det_full_ne_zero hg)
    rw [← PSym.full_mul, ← PSym.full_mul, e]
  have ht : a.tr = b.tr := by
    have := congrArg PSym.tr e
    rw [PSym.tr_mul, PSym.tr_mul] at this
    exact Bool.bne_right_inj.1 this
  rw [← PSym.mk'_full_eq_self a ha, ← PSym.mk'_full_eq_self b hb, hf, ht]

theorem PSym.actCart_mul (a b : PSym F) (k : Vec F) : (a.mul b).actCart k = a.actCart (b.actCart k) := by
  have key : ∀ (g : PSym F) (v : Vec F), g.actCart v = fun i => sgn g.tr * matVec g.full v i := by
    intro g v; funext i
    simp only [PSym.actCart, PSym.full, matVec, matScale, sum3]; ring
  rw [key, key a, key b, PSym.full_mul, PSym.tr_mul, sgn_xor, matVec_matMul]
  funext i
  simp only [matVec, sum3]; ring

theorem PSym.actCart_identity (k : Vec F) : (PSym.identity : PSym F).actCart k = k := by
  funext i
  rw [PSym.identity_eq]
  simp only [PSym.actCart, sgn, matVec, matId, Bool.false_eq_true, reduceIte, one_mul]
  exact sum3_ite_left i k

end Ordered

end WB.C09
