/-
  C07 helper lemmas: the index arithmetic of `TABresult.to_grid` and the average over a grid cell.
-/
import WB.Model.C07
import WB.Lemmas.C09Star
import WB.Lemmas.C09Avg
import Mathlib.Algebra.CharZero.Defs
import Mathlib.Data.Rat.Defs
import Mathlib.Tactic.Ring

namespace WB.C07
open WB.C09

/-! ### C-order index and digits -/

/-- C-order index of a digit vector -/
def encode (grid d : Fin 3 → Nat) : Nat := d 2 + grid 2 * (d 1 + grid 1 * d 0)

/-- the digits of a cell index, as `gridPoint` reads them off -/
def cellDigit (grid : Fin 3 → Nat) (c : Nat) : Fin 3 → Nat := fun i =>
  match i.val with
  | 0 => c / (grid 1 * grid 2)
  | 1 => c / grid 2 % grid 1
  | _ => c % grid 2

theorem gridPoint_eq (grid : Fin 3 → Nat) (c : Nat) (i : Fin 3) :
    gridPoint grid c i = (cellDigit grid c i : Rat) / (grid i : Rat) := by
  fin_cases i <;> rfl

theorem encode_cellDigit (grid : Fin 3 → Nat) (c : Nat) : encode grid (cellDigit grid c) = c := by
  show c % grid 2 + grid 2 * (c / grid 2 % grid 1 + grid 1 * (c / (grid 1 * grid 2))) = c
  rw [Nat.mul_comm (grid 1) (grid 2), ← Nat.div_div_eq_div_mul, Nat.mod_add_div, Nat.mod_add_div]

theorem cellDigit_encode (grid d : Fin 3 → Nat) (h1 : d 1 < grid 1) (h2 : d 2 < grid 2) :
    cellDigit grid (encode grid d) = d := by
  have e : encode grid d / grid 2 = d 1 + grid 1 * d 0 := by
    rw [encode, Nat.add_mul_div_left _ _ (by omega), Nat.div_eq_of_lt h2, Nat.zero_add]
  funext i
  fin_cases i
  · show encode grid d / (grid 1 * grid 2) = d 0
    rw [Nat.mul_comm, ← Nat.div_div_eq_div_mul, e, Nat.add_mul_div_left _ _ (by omega), Nat.div_eq_of_lt h1,
      Nat.zero_add]
  · show encode grid d / grid 2 % grid 1 = d 1
    rw [e, Nat.add_mul_mod_self_left, Nat.mod_eq_of_lt h1]
  · show encode grid d % grid 2 = d 2
    rw [encode, Nat.add_mul_mod_self_left, Nat.mod_eq_of_lt h2]

theorem encode_lt (grid d : Fin 3 → Nat) (h : ∀ i, d i < grid i) : encode grid d < grid 0 * grid 1 * grid 2 := by
  have e1 : d 1 + grid 1 * d 0 + 1 ≤ grid 1 * grid 0 :=
    calc d 1 + grid 1 * d 0 + 1 ≤ grid 1 * (d 0 + 1) := by rw [Nat.mul_succ]; have := h 1; omega
      _ ≤ grid 1 * grid 0 := Nat.mul_le_mul_left _ (h 0)
  calc encode grid d < grid 2 * (d 1 + grid 1 * d 0 + 1) := by rw [encode, Nat.mul_succ]; have := h 2; omega
    _ ≤ grid 2 * (grid 1 * grid 0) := Nat.mul_le_mul_left _ e1
    _ = grid 0 * grid 1 * grid 2 := by ring

theorem cellDigit_lt (grid : Fin 3 → Nat) (hg : ∀ i, 0 < grid i) (c : Nat) (hc : c < grid 0 * grid 1 * grid 2)
    (i : Fin 3) : cellDigit grid c i < grid i := by
  fin_cases i
  · exact (Nat.div_lt_iff_lt_mul (Nat.mul_pos (hg 1) (hg 2))).2 (by rwa [← Nat.mul_assoc])
  · exact Nat.mod_lt _ (hg 1)
  · exact Nat.mod_lt _ (hg 2)

/-! ### `kIndex` -/

/-- the digit the code computes for one coordinate: `rint(k*n) % n` -/
def digitOf (n : Nat) (q : Rat) : Nat := ((q * (n : Rat)).num % (n : Int)).toNat

theorem digitOf_lt (n : Nat) (hn : 0 < n) (q : Rat) : digitOf n q < n := by
  unfold digitOf
  have h1 : (0 : Int) ≤ (q * (n : Rat)).num % (n : Int) := Int.emod_nonneg _ (by omega)
  have h2 : (q * (n : Rat)).num % (n : Int) < (n : Int) := Int.emod_lt_of_pos _ (by omega)
  omega

theorem kIndex_eq_some (grid : Fin 3 → Nat) (k : Vec Rat) (c : Nat) :
    kIndex grid k = some c ↔
      (∀ i, isInt (k i * (grid i : Rat)) = true) ∧ encode grid (fun i => digitOf (grid i) (k i)) = c := by
  unfold kIndex
  split
  · rename_i hall
    exact ⟨fun h => ⟨fun i => List.all_eq_true.1 hall i (List.mem_finRange i), Option.some.inj h⟩,
      fun h => congrArg some h.2⟩
  · rename_i hall
    exact ⟨(nomatch ·), fun h => absurd (List.all_eq_true.2 fun i _ => h.1 i) hall⟩

theorem kIndex_lt (grid : Fin 3 → Nat) (hg : ∀ i, 0 < grid i) (k : Vec Rat) (c : Nat)
    (h : kIndex grid k = some c) : c < grid 0 * grid 1 * grid 2 := by
  obtain ⟨-, rfl⟩ := (kIndex_eq_some grid k c).1 h
  exact encode_lt _ _ fun i => digitOf_lt _ (hg i) _

theorem natCast_div_mul (n a : Nat) (hn : 0 < n) : (a : Rat) / (n : Rat) * (n : Rat) = ((a : Int) : Rat) := by
  rw [div_mul_cancel₀ _ (Nat.cast_ne_zero.2 hn.ne')]; rfl

theorem digitOf_natCast_div (n a : Nat) (hn : 0 < n) : digitOf n ((a : Rat) / (n : Rat)) = a % n := by
  unfold digitOf
  rw [natCast_div_mul n a hn, Rat.num_intCast]
  omega

/-- the grid point of cell `c` is on the grid and is given index `c`: the k-points of a full-grid run
    (`k_new`, C order) keep their place -/
theorem kIndex_gridPoint (grid : Fin 3 → Nat) (hg : ∀ i, 0 < grid i) (c : Nat)
    (hc : c < grid 0 * grid 1 * grid 2) : kIndex grid (gridPoint grid c) = some c := by
  refine (kIndex_eq_some _ _ _).2 ⟨fun i => ?_, ?_⟩
  · rw [gridPoint_eq, natCast_div_mul _ _ (hg i)]; exact isInt_intCast _
  · have e : (fun i => digitOf (grid i) (gridPoint grid c i)) = cellDigit grid c := funext fun i => by
      rw [gridPoint_eq, digitOf_natCast_div _ _ (hg i), Nat.mod_eq_of_lt (cellDigit_lt grid hg c hc i)]
    rw [e, encode_cellDigit]

theorem sub_digit_isInt (n : Nat) (hn : 0 < n) (q : Rat) (h : isInt (q * (n : Rat)) = true) :
    isInt (q - ((digitOf n q : Nat) : Rat) / (n : Rat)) = true := by
  have hne : (n : Rat) ≠ 0 := Nat.cast_ne_zero.2 hn.ne'
  obtain ⟨z, hz⟩ := (isInt_iff _).1 h
  have hd : ((digitOf n q : Nat) : Rat) = ((z % (n : Int) : Int) : Rat) := by
    unfold digitOf
    rw [hz, Rat.num_intCast, ← Int.cast_natCast, Int.toNat_of_nonneg (Int.emod_nonneg _ (by omega))]
  -- `q = z / n`, and `z - z % n = n * (z / n)`
  refine (isInt_iff _).2 ⟨z / n, ?_⟩
  rw [hd, eq_div_of_mul_eq hne hz, ← sub_div, ← Int.cast_sub, Int.emod_def, sub_sub_cancel, Int.cast_mul,
    Int.cast_natCast, mul_div_cancel_left₀ _ hne]

theorem kIndex_sound (grid : Fin 3 → Nat) (hg : ∀ i, 0 < grid i) (k : Vec Rat) (c : Nat)
    (h : kIndex grid k = some c) : equivMod1 k (gridPoint grid c) = true := by
  obtain ⟨hint, rfl⟩ := (kIndex_eq_some grid k c).1 h
  refine (equivMod1_iff _ _).2 fun i => ?_
  rw [gridPoint_eq, cellDigit_encode _ _ (digitOf_lt _ (hg 1) _) (digitOf_lt _ (hg 2) _)]
  exact sub_digit_isInt _ (hg i) _ (hint i)

/-! ### the average over a cell -/

theorem cellAverage_const {K : Type} [Field K] [CharZero K] (vals : Nat → K) (km : List Nat) (v : K)
    (hne : km ≠ []) (h : ∀ ik ∈ km, vals ik = v) : cellAverage vals km = some v := by
  obtain ⟨a, t, rfl⟩ := List.exists_cons_of_ne_nil hne
  show some _ = some v
  rw [foldl_add_eq, zero_add, List.map_congr_left h, List.map_const', List.sum_replicate, nsmul_eq_mul,
    mul_div_cancel_left₀ _ (Nat.cast_ne_zero.2 (Nat.succ_ne_zero _))]

theorem mem_kMap (grid : Fin 3 → Nat) (kpts : List (Vec Rat)) (c : Nat) (hc : c < grid 0 * grid 1 * grid 2)
    (ik : Nat) :
    ik ∈ (kMap grid kpts).getD c [] ↔ ik < kpts.length ∧ kIndex grid (kpts.getD ik (fun _ => 0)) = some c := by
  unfold kMap
  rw [List.getD_eq_getElem?_getD, List.getElem?_map, List.getElem?_range hc]
  simp [List.mem_filter]

end WB.C07
