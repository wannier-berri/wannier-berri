/-
  C14 — band groups of `TetraWeights.weights_all_band_groups`: with the Fermi-sea completion every band is counted
  exactly once, so the tetrahedron cumulative DOS is 0 below all bands and NB above them; counting and list-sum
  facts behind band selection and the `run()`-level sum over K-points.
-/
import WB.Model.C14
import WB.Props.C15
import Mathlib.Data.List.Basic
import Mathlib.Data.List.Pairwise
import Mathlib.Algebra.Order.Field.Basic
import Mathlib.Tactic.Linarith
import Mathlib.Tactic.Ring
import Mathlib.Tactic.FieldSimp

namespace WB.C14
open WB.C15 (pairs blocks borders sliceMax sliceMin)

theorem foldl_add_eq_sum (l : List Rat) (x0 : Rat) : l.foldl (· + ·) x0 = x0 + l.sum := by
  induction l generalizing x0 with
  | nil => simp
  | cons y l ih => simp only [List.foldl_cons, List.sum_cons, ih]; ring

theorem foldl_max_ge_iff (l : List Rat) (x0 c : Rat) :
    c ≤ l.foldl (fun m x => if x > m then x else m) x0 ↔ c ≤ x0 ∨ ∃ x ∈ l, c ≤ x := by
  induction l generalizing x0 with
  | nil => simp
  | cons y l ih =>
    have hmax : (if y > x0 then y else x0) = max x0 y := by
      rcases le_or_gt y x0 with h | h
      · rw [if_neg (not_lt.mpr h), max_eq_left h]
      · rw [if_pos h, max_eq_right h.le]
    simp only [List.foldl_cons, hmax, ih, le_max_iff, List.mem_cons, exists_eq_or_imp, or_assoc]

theorem foldl_min_le_iff (l : List Rat) (x0 c : Rat) :
    l.foldl (fun m x => if x < m then x else m) x0 ≤ c ↔ x0 ≤ c ∨ ∃ x ∈ l, x ≤ c := by
  induction l generalizing x0 with
  | nil => simp
  | cons y l ih =>
    have hmin : (if y < x0 then y else x0) = min x0 y := by
      rcases lt_or_ge y x0 with h | h
      · rw [if_pos h, min_eq_right h.le]
      · rw [if_neg (not_lt.mpr h), min_eq_left h]
    simp only [List.foldl_cons, hmin, ih, min_le_iff, List.mem_cons, exists_eq_or_imp, or_assoc]

theorem sliceMax_ge_iff (E : Nat → Rat) (a b : Nat) (c : Rat) :
    c ≤ sliceMax E a b ↔ c ≤ E a ∨ ∃ j, j < b - a ∧ c ≤ E (a + j) := by
  simp only [sliceMax, foldl_max_ge_iff, List.mem_map, List.mem_range, exists_exists_and_eq_and]

theorem sliceMin_le_iff (E : Nat → Rat) (a b : Nat) (c : Rat) :
    sliceMin E a b ≤ c ↔ E a ≤ c ∨ ∃ j, j < b - a ∧ E (a + j) ≤ c := by
  simp only [sliceMin, foldl_min_le_iff, List.mem_map, List.mem_range, exists_exists_and_eq_and]

/-- for band-index-monotone `Emax` the maximum over a block is attained at its last band -/
theorem sliceMax_ge_mono (E : Nat → Rat) (n a b : Nat) (hab : a < b) (hbn : b ≤ n)
    (hmono : ∀ i j, i ≤ j → j < n → E i ≤ E j) (c : Rat) :
    c ≤ sliceMax E a b ↔ c ≤ E (b - 1) := by
  rw [sliceMax_ge_iff]
  constructor
  · rintro (h | ⟨j, hj, h⟩)
    · exact le_trans h (hmono a (b - 1) (by omega) (by omega))
    · exact le_trans h (hmono (a + j) (b - 1) (by omega) (by omega))
  · intro h
    refine Or.inr ⟨b - 1 - a, by omega, ?_⟩
    have : a + (b - 1 - a) = b - 1 := by omega
    rw [this]; exact h

/-! ### `get_bands_below_range` -/

/-- `(range n).reverse` at position `j` is `n - 1 - j`, so what `find?` skipped before `i` are the `k > i` -/
theorem find?_reverse_range_some {p : Nat → Bool} {n i : Nat} (h : (List.range n).reverse.find? p = some i) :
    i < n ∧ p i = true ∧ ∀ k, i < k → k < n → p k = false := by
  obtain ⟨hp, j, hj, rfl, hall⟩ := List.find?_eq_some_iff_getElem.mp h
  simp only [List.length_reverse, List.length_range] at hj
  simp only [List.getElem_reverse, List.getElem_range, List.length_range] at hp hall ⊢
  refine ⟨by omega, hp, fun k hk hkn => ?_⟩
  have := hall (n - 1 - k) (by omega)
  rwa [show n - 1 - (n - 1 - k) = k by omega, Bool.not_eq_true'] at this

/-- for band-index-monotone `Emax`: `get_bands_below_range` counts the bands lying entirely below `emin` -/
theorem bandsBelow_spec (Emax : Nat → Rat) (n : Nat) (emin : Rat)
    (hmono : ∀ i j, i ≤ j → j < n → Emax i ≤ Emax j) :
    bandsBelow Emax n (some emin) ≤ n ∧ ∀ i, i < n → (i < bandsBelow Emax n (some emin) ↔ Emax i < emin) := by
  simp only [bandsBelow]
  cases hf : (List.range n).reverse.find? (fun i => decide (Emax i < emin)) with
  | some i =>
    show i + 1 ≤ n ∧ ∀ k, k < n → (k < i + 1 ↔ Emax k < emin)
    obtain ⟨hin, hpi, hlast⟩ := find?_reverse_range_some hf
    simp only [decide_eq_true_eq] at hpi
    refine ⟨by omega, ?_⟩
    intro k hk
    constructor
    · intro hki
      exact lt_of_le_of_lt (hmono k i (by omega) hin) hpi
    · intro hlt
      by_contra hge
      have := hlast k (by omega) hk
      simp only [decide_eq_false_iff_not] at this
      exact this hlt
  | none =>
    show 0 ≤ n ∧ ∀ k, k < n → (k < 0 ↔ Emax k < emin)
    rw [List.find?_eq_none] at hf
    refine ⟨Nat.zero_le _, ?_⟩
    intro k hk
    constructor
    · intro h; omega
    · intro hlt
      have := hf k (by simp [hk])
      simp only [decide_eq_true_eq] at this
      exact absurd hlt this

theorem bandsBelow_eq_zero (Emax : Nat → Rat) (n : Nat) (emin : Rat) (h : ∀ i, i < n → emin ≤ Emax i) :
    bandsBelow Emax n (some emin) = 0 := by
  simp only [bandsBelow]
  cases hf : (List.range n).reverse.find? (fun i => decide (Emax i < emin)) with
  | some i =>
    have hin : i < n := by simpa using List.mem_of_find?_eq_some hf
    have hi := List.find?_some hf
    simp only [decide_eq_true_eq] at hi
    exact absurd hi (not_lt.mpr (h i hin))
  | none => rfl

theorem sliceMax_ge_iff_bandsBelow_lt (Emax : Nat → Rat) (n a b : Nat) (hab : a < b) (hbn : b ≤ n)
    (hmono : ∀ i j, i ≤ j → j < n → Emax i ≤ Emax j) (emin : Rat) :
    emin ≤ sliceMax Emax a b ↔ bandsBelow Emax n (some emin) < b := by
  rw [sliceMax_ge_mono Emax n a b hab hbn hmono, ← not_lt,
    ← (bandsBelow_spec Emax n emin hmono).2 (b - 1) (by omega)]
  omega

/-- telescoping sum of the block sizes -/
theorem sum_pairs_all : ∀ (l : List Nat) (x : Nat), (x :: l).Pairwise (· < ·) →
    ((pairs (x :: l)).map identTrace).sum = (((x :: l).getLast (List.cons_ne_nil _ _) : Nat) : Rat) - (x : Rat)
  | [], x, _ => by simp [pairs]
  | y :: rest, x, hs => by
    rw [pairs]
    have hxy : x < y := (List.pairwise_cons.mp hs).1 y (by simp)
    have hs' := (List.pairwise_cons.mp hs).2
    have ih := sum_pairs_all rest y hs'
    rw [List.map_cons, List.sum_cons, ih, List.getLast_cons_cons]
    unfold identTrace
    rw [Nat.cast_sub hxy.le]
    ring

/-- size of the lumped Fermi-sea group as the code computes it -/
def lumpSize (fl : List (Nat × Nat)) (m : Nat) : Nat :=
  match fl.head? with
  | some ab => min m ab.1
  | none => m

theorem lumpSize_zero (fl : List (Nat × Nat)) : lumpSize fl 0 = 0 := by
  unfold lumpSize; cases fl.head? <;> simp

/-- the lumped sea group (when present) is `(0, lumpSize)`; when absent `lumpSize = 0` -/
theorem seaGroup_value (Emax : Nat → Rat) (n : Nat) (F : List (Nat × Nat)) (ef0 : Rat) :
    lumpValue (seaGroup Emax n F ef0 none) identTrace
      = ((lumpSize F (bandsBelow Emax n (some ef0)) : Nat) : Rat) := by
  unfold lumpValue seaGroup lumpSize
  rw [show bandsBelow Emax n none = 0 from rfl]
  generalize bandsBelow Emax n (some ef0) = M
  have key : ∀ B : Nat, (match (if B > 0 then some (0, B) else none : Option (Nat × Nat)) with
      | some g => identTrace g
      | none => 0) = (B : Rat) := by
    intro B
    by_cases hB : B > 0
    · simp [hB, identTrace]
    · have : B = 0 := by omega
      simp [this]
  cases F.head? <;> exact key _

/-- KEY counting lemma: the blocks ending above `m` plus the lumped group `[0, min(m, first kept block))`
    account for every index below the last border exactly once -/
theorem blocks_plus_lump : ∀ (l : List Nat) (x m : Nat), (x :: l).Pairwise (· < ·) → x ≤ m →
    m ≤ (x :: l).getLast (List.cons_ne_nil _ _) →
    (((pairs (x :: l)).filter (fun ab => decide (m < ab.2))).map identTrace).sum
      + ((lumpSize ((pairs (x :: l)).filter (fun ab => decide (m < ab.2))) m : Nat) : Rat)
      = (((x :: l).getLast (List.cons_ne_nil _ _) : Nat) : Rat)
  | [], x, m, _, h1, h2 => by
    simp only [List.getLast_singleton] at h2
    have : m = x := by omega
    subst this
    simp [pairs, lumpSize]
  | y :: rest, x, m, hs, h1, h2 => by
    have hxy : x < y := (List.pairwise_cons.mp hs).1 y (by simp)
    have hs' := (List.pairwise_cons.mp hs).2
    rw [pairs]
    by_cases hmy : m < y
    · -- the first block is kept, hence all of them
      have hall : (pairs (y :: rest)).filter (fun ab => decide (m < ab.2)) = pairs (y :: rest) := by
        rw [List.filter_eq_self]
        intro ab hab
        obtain ⟨ha, -, h4, -⟩ := C15.pairs_mem_consecutive _ hs' ab.1 ab.2 hab
        have : y ≤ ab.1 := by
          rcases List.mem_cons.mp ha with h | h
          · exact h.ge
          · exact ((List.pairwise_cons.mp hs').1 _ h).le
        simp only [decide_eq_true_eq]; omega
      rw [List.filter_cons_of_pos (by simpa using hmy), hall, List.map_cons, List.sum_cons,
        sum_pairs_all rest y hs', List.getLast_cons_cons]
      have : lumpSize ((x, y) :: pairs (y :: rest)) m = x := by
        simp only [lumpSize, List.head?_cons]; omega
      rw [this]
      unfold identTrace
      rw [Nat.cast_sub hxy.le]
      ring
    · have hym : y ≤ m := by omega
      rw [List.filter_cons_of_neg (by simpa using hmy), List.getLast_cons_cons]
      exact blocks_plus_lump rest y m hs' hym (by rwa [List.getLast_cons_cons] at h2)

theorem borders_shape (E : Nat → Rat) (th : Rat) (n : Nat) (kr : Bool) (hk : kr = true → n % 2 = 0) :
    ∃ l, borders E th n kr = 0 :: l ∧ (0 :: l).Pairwise (· < ·) ∧ (0 :: l).getLast (List.cons_ne_nil _ _) = n := by
  have hs := C15.borders_sorted E th n kr
  have h0 : 0 ∈ borders E th n kr := (C15.mem_borders ..).2 ⟨Nat.zero_le _, Or.inl rfl, fun _ => rfl⟩
  have hN : n ∈ borders E th n kr := (C15.mem_borders ..).2 ⟨le_rfl, Or.inr (Or.inl rfl), hk⟩
  obtain ⟨l, hl⟩ : ∃ l, borders E th n kr = 0 :: l := by
    cases hb : borders E th n kr with
    | nil => rw [hb] at h0; simp at h0
    | cons x l =>
      rw [hb] at h0 hs
      rcases List.mem_cons.mp h0 with h | h
      · exact ⟨l, by rw [← h]⟩
      · have := (List.pairwise_cons.mp hs).1 0 h; omega
  rw [hl] at hs hN
  refine ⟨l, hl, hs, ?_⟩
  exact le_antisymm ((C15.mem_borders ..).1 (by rw [hl]; exact List.getLast_mem _)).1 ((hs.imp le_of_lt).rel_getLast hN)

theorem blocks_bounds (E : Nat → Rat) (th : Rat) (n : Nat) (kr : Bool) (hk : kr = true → n % 2 = 0)
    (ab : Nat × Nat) (h : ab ∈ blocks E th n kr) : ab.1 < ab.2 ∧ ab.2 ≤ n := by
  obtain ⟨l, hl, hs, hlast⟩ := borders_shape E th n kr hk
  unfold blocks at h
  rw [hl] at h
  obtain ⟨-, hb, hab, -⟩ := C15.pairs_mem_consecutive _ hs ab.1 ab.2 h
  exact ⟨hab, ((hs.imp le_of_lt).rel_getLast hb).trans_eq hlast⟩

theorem blocks_filter_plus_lump (E : Nat → Rat) (th : Rat) (n : Nat) (kr : Bool) (hk : kr = true → n % 2 = 0)
    (m : Nat) (hm : m ≤ n) :
    (((blocks E th n kr).filter (fun ab => decide (m < ab.2))).map identTrace).sum
      + ((lumpSize ((blocks E th n kr).filter (fun ab => decide (m < ab.2))) m : Nat) : Rat) = (n : Rat) := by
  obtain ⟨l, hl, hs, hlast⟩ := borders_shape E th n kr hk
  unfold blocks
  rw [hl]
  have := blocks_plus_lump l 0 m hs (Nat.zero_le _) (hlast.symm ▸ hm)
  rwa [hlast] at this

theorem tetraCumDOS_eq (Ec Emin Emax : Nat → Rat) (th : Rat) (n : Nat) (kr : Bool) (ef0 efN : Rat) (w : Nat → Rat) :
    tetraCumDOS Ec Emin Emax th n kr ef0 efN w =
      ((inRange Ec Emin Emax th n kr ef0 efN).map (fun ab => groupWeight w ab * identTrace ab)).sum
        + ((lumpSize (inRange Ec Emin Emax th n kr ef0 efN) (bandsBelow Emax n (some ef0)) : Nat) : Rat) := by
  simp only [tetraCumDOS, tetraResult, foldl_add_eq_sum, zero_add, seaGroup_value]

theorem groupWeight_const (w : Nat → Rat) (c : Rat) (ab : Nat × Nat) (hab : ab.1 < ab.2)
    (hw : ∀ i, ab.1 ≤ i → i < ab.2 → w i = c) : groupWeight w ab = c := by
  unfold groupWeight
  have hpos : ((ab.2 - ab.1 : Nat) : Rat) ≠ 0 := Nat.cast_ne_zero.mpr (by omega)
  rw [List.map_congr_left (g := fun _ => c) (fun j hj => hw _ (by omega) (by have := List.mem_range.mp hj; omega)),
    foldl_add_eq_sum, zero_add, List.map_const', List.sum_replicate, List.length_range, nsmul_eq_mul]
  field_simp

theorem count_range_interval (a b n : Nat) :
    ((List.range n).filter (fun i => decide (a ≤ i) && decide (i < b))).length = min b n - a := by
  induction n with
  | zero => simp
  | succ n ih =>
    rw [List.range_succ, List.filter_append, List.length_append, ih]
    by_cases h : a ≤ n ∧ n < b
    · simp only [List.filter_cons, h.1, h.2, decide_true, Bool.and_self, if_true, List.filter_nil,
        List.length_singleton]
      omega
    · have hf : (decide (a ≤ n) && decide (n < b)) = false := by simpa using h
      simp only [List.filter_cons, hf, Bool.false_eq_true, if_false, List.filter_nil, List.length_nil]
      omega

theorem listSum_eq (l : List Rat) : listSum l = l.sum := by
  unfold listSum; rw [foldl_add_eq_sum, zero_add]

theorem listSum_const (l : List Rat) (c : Rat) (h : ∀ x ∈ l, x = c) : listSum l = (l.length : Rat) * c := by
  rw [listSum_eq]
  induction l with
  | nil => simp
  | cons x l ih =>
    rw [List.sum_cons, ih (fun y hy => h y (List.mem_cons_of_mem _ hy)), h x (by simp), List.length_cons]
    push_cast; ring

theorem listSum_le (l l' : List Rat) (h : List.Forall₂ (· ≤ ·) l l') : listSum l ≤ listSum l' := by
  rw [listSum_eq, listSum_eq]
  induction h with
  | nil => simp
  | cons hab _ ih => simp only [List.sum_cons]; linarith

end WB.C14
