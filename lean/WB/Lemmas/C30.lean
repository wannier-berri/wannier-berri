/-
  Helper lemmas for C30: mixed-radix digits (behind the C-order grid index and the k-points of a factorisation), `to_grid`
  at exact grid values `X/g` and the mean of equal values, `find_grid` on a complete grid (sorting, largest element, gaps).
-/
import WB.Model.C30
import Mathlib.Data.List.Nodup
import Mathlib.Data.List.GetD
import Mathlib.Data.List.Sort
import Mathlib.Data.Rat.Cast.CharZero
import Mathlib.Algebra.Order.Field.Rat
import Mathlib.Tactic.NormNum
import Mathlib.Algebra.BigOperators.Group.List.Basic
import Mathlib.Algebra.Order.GroupWithZero.Basic
import Mathlib.Algebra.Order.Field.Basic

namespace WB.C30

/-! ### mixed-radix digits: `x + d * i` with `x < d` -/

theorem digit_lt (d f x i : Nat) (hx : x < d) (hi : i < f) : x + d * i < d * f :=
  calc x + d * i < d + d * i := Nat.add_lt_add_right hx _
    _ = d * (i + 1) := by rw [Nat.mul_succ, Nat.add_comm]
    _ ≤ d * f := Nat.mul_le_mul_left _ hi

theorem digit_mod (d x i : Nat) (hx : x < d) : (x + d * i) % d = x := by
  rw [Nat.add_mul_mod_self_left, Nat.mod_eq_of_lt hx]

theorem digit_div (d x i : Nat) (hx : x < d) : (x + d * i) / d = i := by
  rw [Nat.add_mul_div_left _ _ (Nat.zero_lt_of_lt hx), Nat.div_eq_of_lt hx, Nat.zero_add]

theorem digit_inj (d x i x' i' : Nat) (hx : x < d) (hx' : x' < d) (h : x + d * i = x' + d * i') :
    x = x' ∧ i = i' :=
  ⟨by rw [← digit_mod d x i hx, h, digit_mod d x' i' hx'], by rw [← digit_div d x i hx, h, digit_div d x' i' hx']⟩

theorem digit_surj (d f X : Nat) (hd : 0 < d) (hX : X < d * f) :
    X % d < d ∧ X / d < f ∧ X % d + d * (X / d) = X :=
  ⟨Nat.mod_lt _ hd, (Nat.div_lt_iff_lt_mul hd).2 (by rw [Nat.mul_comm]; exact hX), Nat.mod_add_div _ _⟩

/-! ### the k-points of a factorisation -/

theorem triples_eq_product (n : N3) : triples n = List.range n.1 ×ˢ (List.range n.2.1 ×ˢ List.range n.2.2) := by
  simp only [triples, SProd.sprod, List.product, List.map_flatMap, List.map_map]
  rfl

theorem mem_triples (n p : N3) : p ∈ triples n ↔ inBox n p := by
  obtain ⟨x, y, z⟩ := p
  rw [triples_eq_product]
  simp only [SProd.sprod, List.pair_mem_product, List.mem_range, inBox]

theorem triples_nodup (n : N3) : (triples n).Nodup := by
  rw [triples_eq_product]
  exact List.nodup_range.product (List.nodup_range.product List.nodup_range)

theorem kpointOf_inBox (div Kp F fft : N3) (hK : inBox div Kp) (hF : inBox fft F) :
    inBox (dense div fft) (kpointOf div Kp F) :=
  ⟨digit_lt _ _ _ _ hK.1 hF.1, digit_lt _ _ _ _ hK.2.1 hF.2.1, digit_lt _ _ _ _ hK.2.2 hF.2.2⟩

theorem kpointOf_inj (div Kp F Kp' F' : N3) (hK : inBox div Kp) (hK' : inBox div Kp')
    (h : kpointOf div Kp F = kpointOf div Kp' F') : Kp = Kp' ∧ F = F' := by
  have a := digit_inj _ _ _ _ _ hK.1 hK'.1 (congrArg (·.1) h)
  have b := digit_inj _ _ _ _ _ hK.2.1 hK'.2.1 (congrArg (·.2.1) h)
  have c := digit_inj _ _ _ _ _ hK.2.2 hK'.2.2 (congrArg (·.2.2) h)
  exact ⟨Prod.ext a.1 (Prod.ext b.1 c.1), Prod.ext a.2 (Prod.ext b.2 c.2)⟩

theorem mem_tabPoints (div fft P : N3) (hd : 0 < div.1 ∧ 0 < div.2.1 ∧ 0 < div.2.2) :
    P ∈ tabPoints div fft ↔ inBox (dense div fft) P := by
  simp only [tabPoints, List.mem_flatMap, List.mem_map, mem_triples]
  constructor
  · rintro ⟨Kp, hK, F, hF, rfl⟩
    exact kpointOf_inBox div Kp F fft hK hF
  · intro hP
    obtain ⟨a1, a2, a3⟩ := digit_surj div.1 fft.1 P.1 hd.1 hP.1
    obtain ⟨b1, b2, b3⟩ := digit_surj div.2.1 fft.2.1 P.2.1 hd.2.1 hP.2.1
    obtain ⟨c1, c2, c3⟩ := digit_surj div.2.2 fft.2.2 P.2.2 hd.2.2 hP.2.2
    refine ⟨(P.1 % div.1, P.2.1 % div.2.1, P.2.2 % div.2.2), ⟨a1, b1, c1⟩,
      (P.1 / div.1, P.2.1 / div.2.1, P.2.2 / div.2.2), ⟨a2, b2, c2⟩, ?_⟩
    simp only [kpointOf, a3, b3, c3]

theorem tabPoints_nodup (div fft : N3) : (tabPoints div fft).Nodup := by
  have e : tabPoints div fft = (triples div ×ˢ triples fft).map (fun p => kpointOf div p.1 p.2) := by
    simp only [tabPoints, SProd.sprod, List.product, List.map_flatMap, List.map_map]
    rfl
  rw [e]
  refine ((triples_nodup div).product (triples_nodup fft)).map_on ?_
  rintro ⟨K, F⟩ hp ⟨K', F'⟩ hq h
  obtain ⟨rfl, rfl⟩ := kpointOf_inj div K F K' F' ((mem_triples _ _).1 (List.pair_mem_product.1 hp).1)
    ((mem_triples _ _).1 (List.pair_mem_product.1 hq).1) h
  rfl

/-! ### `to_grid` -/

theorem rint_int (n : Int) : rint (n : Rat) = n := by
  unfold rint
  simp only [Rat.floor_intCast, sub_self]
  exact if_pos one_half_pos

theorem coord_exact (g X : Nat) (hX : X < g) : coord g ((X : Rat) / g) = (true, X) := by
  have hg : (g : Rat) ≠ 0 := Nat.cast_ne_zero.2 (Nat.ne_of_gt (Nat.zero_lt_of_lt hX))
  have h1 : (X : Rat) / g * g = ((X : Int) : Rat) := by
    rw [div_mul_cancel₀ _ hg, Int.cast_natCast]
  unfold coord
  simp only [h1, rint_int]
  refine Prod.ext ?_ ?_
  · rw [Int.cast_natCast, sub_self, absQ, if_neg (lt_irrefl _)]
    exact decide_eq_true (by norm_num)
  · show ((X : Int) % (g : Int)).toNat = X
    rw [Int.emod_eq_of_lt (Int.natCast_nonneg X) (Int.ofNat_lt.2 hX), Int.toNat_natCast]

theorem slotOf_exact (g P : N3) (h : inBox g P) : slotOf g (toQ g P) = some (cindex g P) := by
  unfold slotOf toQ
  simp only [coord_exact _ _ h.1, coord_exact _ _ h.2.1, coord_exact _ _ h.2.2]
  simp

theorem mem_kmap (g : N3) (kpts : List Q3) (s ik : Nat) :
    ik ∈ kmap g kpts s ↔ ik < kpts.length ∧ slotOf g (kpts.getD ik (0, 0, 0)) = some s := by
  simp [kmap]

section
variable {K : Type} [Field K]

theorem mean_of_const [CharZero K] (l : List Nat) (hl : l ≠ []) (data : Nat → K) (v : K)
    (h : ∀ ik ∈ l, data ik = v) : sumList (l.map data) / (l.length : K) = v := by
  have hlen : (l.length : K) ≠ 0 := Nat.cast_ne_zero.2 (fun h0 => hl (List.length_eq_zero_iff.1 h0))
  rw [sumList, ← List.sum_eq_foldl, List.map_congr_left h, List.map_const', List.sum_replicate, nsmul_eq_mul,
    mul_div_cancel_left₀ _ hlen]

end

/-! ### `np.sort` is the library's insertion sort -/

theorem insertSorted_eq_orderedInsert (x : Rat) (l : List Rat) : insertSorted x l = l.orderedInsert (· ≤ ·) x := by
  induction l with
  | nil => rfl
  | cons y l ih => simp only [insertSorted, List.orderedInsert, ih]

theorem sortQ_eq_insertionSort (l : List Rat) : sortQ l = l.insertionSort (· ≤ ·) := by
  induction l with
  | nil => rfl
  | cons x l ih => rw [sortQ, ih, insertSorted_eq_orderedInsert]; rfl

theorem sortQ_perm (l : List Rat) : (sortQ l).Perm l := by
  rw [sortQ_eq_insertionSort]; exact List.perm_insertionSort _ _

theorem sortQ_sorted (l : List Rat) : (sortQ l).Pairwise (· ≤ ·) := by
  rw [sortQ_eq_insertionSort]; exact List.pairwise_insertionSort _ _


/-! ### largest element (`maxQ`) -/

theorem maxQ_cons_spec (l : List Rat) (a : Rat) : maxQ (a :: l) ∈ a :: l ∧ ∀ x ∈ a :: l, x ≤ maxQ (a :: l) := by
  induction l generalizing a with
  | nil => exact ⟨List.mem_cons_self, fun x hx => le_of_eq (List.mem_singleton.1 hx)⟩
  | cons y l ih =>
    -- the fold goes on from the larger of `a`, `y`
    obtain ⟨h1, h2⟩ := ih (if y > a then y else a)
    have hy : a ≤ (if y > a then y else a) ∧ y ≤ (if y > a then y else a) := by
      split
      · exact ⟨le_of_lt ‹_›, le_refl _⟩
      · exact ⟨le_refl _, le_of_not_gt ‹_›⟩
    refine ⟨?_, fun x hx => ?_⟩
    · rcases List.mem_cons.1 h1 with h | h
      · rw [show maxQ (a :: y :: l) = _ from h]
        split
        · exact List.mem_cons_of_mem _ List.mem_cons_self
        · exact List.mem_cons_self
      · exact List.mem_cons_of_mem _ (List.mem_cons_of_mem _ h)
    · rcases List.mem_cons.1 hx with rfl | hx
      · exact hy.1.trans (h2 _ List.mem_cons_self)
      · rcases List.mem_cons.1 hx with rfl | hx
        · exact hy.2.trans (h2 _ List.mem_cons_self)
        · exact h2 x (List.mem_cons_of_mem _ hx)

theorem maxQ_spec (l : List Rat) (h : l ≠ []) : maxQ l ∈ l ∧ ∀ x ∈ l, x ≤ maxQ l := by
  cases l with
  | nil => exact absurd rfl h
  | cons a l => exact maxQ_cons_spec l a

/-! ### gaps of a sorted list -/

/-- a gap of a sorted list is the difference of two members with no member strictly between them -/
theorem mem_gaps_sorted (s : List Rat) (hs : s.Pairwise (· ≤ ·)) (d : Rat) (hd : d ∈ gaps s) :
    ∃ a ∈ s, ∃ b ∈ s, d = b - a ∧ ∀ c ∈ s, c ≤ a ∨ b ≤ c := by
  induction s with
  | nil => cases hd
  | cons a l ih =>
    cases l with
    | nil => cases hd
    | cons b rest =>
      rw [gaps] at hd
      obtain ⟨hab, hs'⟩ := List.pairwise_cons.1 hs
      rcases List.mem_cons.1 hd with rfl | hd
      · refine ⟨a, List.mem_cons_self, b, List.mem_cons_of_mem _ List.mem_cons_self, rfl, fun c hc => ?_⟩
        rcases List.mem_cons.1 hc with rfl | hc
        · exact Or.inl (le_refl _)
        · rcases List.mem_cons.1 hc with rfl | hc
          · exact Or.inr (le_refl _)
          · exact Or.inr ((List.pairwise_cons.1 hs').1 c hc)
      · obtain ⟨a', ha', b', hb', rfl, hbt⟩ := ih hs' hd
        refine ⟨a', List.mem_cons_of_mem _ ha', b', List.mem_cons_of_mem _ hb', rfl, fun c hc => ?_⟩
        rcases List.mem_cons.1 hc with rfl | hc
        · exact Or.inl (hab a' ha')
        · exact hbt c hc

theorem exists_pos_gap (s : List Rat) (hs : s.Pairwise (· ≤ ·)) (x : Rat) (hx : x ∈ s) (y : Rat) (hy : y ∈ s)
    (hlt : x < y) : ∃ d ∈ gaps s, 0 < d := by
  induction s with
  | nil => cases hx
  | cons a l ih =>
    cases l with
    | nil =>
      rw [List.mem_singleton.1 hx, List.mem_singleton.1 hy] at hlt
      exact absurd hlt (lt_irrefl _)
    | cons b rest =>
      obtain ⟨hab, hs'⟩ := List.pairwise_cons.1 hs
      rw [gaps]
      rcases lt_or_eq_of_le (hab b List.mem_cons_self) with h | h
      · exact ⟨b - a, List.mem_cons_self, sub_pos.2 h⟩
      · have hmem : ∀ z ∈ a :: b :: rest, z ∈ b :: rest := fun z hz =>
          (List.mem_cons.1 hz).elim (fun e => e.trans h ▸ List.mem_cons_self) id
        obtain ⟨d, hd, hpos⟩ := ih hs' (hmem x hx) (hmem y hy)
        exact ⟨d, List.mem_cons_of_mem _ hd, hpos⟩

/-! ### grid values `n/g` -/

theorem natCast_div_le_div_iff (g : Nat) (hg : 0 < g) (n m : Nat) : (n : Rat) / g ≤ (m : Rat) / g ↔ n ≤ m := by
  have : (0 : Rat) < g := by exact_mod_cast hg
  rw [div_le_div_iff_of_pos_right this]
  exact_mod_cast Iff.rfl

theorem natCast_succ_div (g k : Nat) : ((k + 1 : Nat) : Rat) / g = (k : Rat) / g + 1 / g := by
  rw [Nat.cast_succ, add_div]

end WB.C30
