/-
  C02 — Hermiticity: derivative factors preserve  X(-R) = X(R)†;  the k-space sums are Hermitian;  hermitize.
  `K` is any field with a star operation (complex conjugation on ℂ).
-/
import WB.Lemmas.C02Box
import Mathlib.Algebra.Star.Rat

namespace WB.C02
open WB.C01

section herm
variable {K : Type} [Field K] [StarRing K]

/-- `X(-R)_{ba} = conj X(R)_{ab}` -/
def HermR (X : Vec3 → Nat → Nat → K) : Prop := ∀ R a b, X (vneg R) b a = star (X R a b)

/-- a real factor that is odd under `(R,a,b) ↦ (-R,b,a)` — such as `(R + t_b − t_a)_α` -/
def RealOdd (v : Vec3 → Nat → Nat → K) : Prop :=
  (∀ R a b, star (v R a b) = v R a b) ∧ ∀ R a b, v (vneg R) b a = -(v R a b)

/-- the derivative factor of the code, `(R + t_b − t_a)·L`, is odd -/
theorem cRshift_odd (L : List (List Rat)) (cs : List QVec3) (R : Vec3) (a b α : Nat) :
    cRshift L cs (vneg R) b a α = -(cRshift L cs R a b α) := by
  simp only [cRshift, cartComp, vneg]
  push_cast
  ring

theorem derivStep_hermitian (I : K) (hI : star I = -I) (v : Vec3 → Nat → Nat → K) (hv : RealOdd v)
    (X : Vec3 → Nat → Nat → K) (hX : HermR X) :
    HermR (fun R a b => derivStep I (v R a b) (X R a b)) := by
  intro R a b
  simp only [derivStep]
  rw [hX R a b, hv.2 R a b, star_mul', star_mul', hI, hv.1 R a b]
  ring

omit [StarRing K] in
theorem derivN_cons (I : K) (v : K) (vs : List K) (x : K) :
    derivN I (v :: vs) x = derivN I vs (derivStep I v x) := rfl

/-- the k-space matrix `H_ab = Σ_R χ(R) Y_ab(R)` of Hermitian real-space data on an inversion-symmetric R list is
    Hermitian, for every character with `conj χ(R) = χ(-R)` -/
theorem ksum_hermitian (iRvec : List Vec3) (hsym : (iRvec.map vneg).Perm iRvec)
    (χ : Vec3 → K) (hχ : ∀ R, star (χ R) = χ (vneg R))
    (Y : Vec3 → Nat → Nat → K) (hY : HermR Y) (a b : Nat) :
    explicitSum χ (iRvec.map fun R => (R, Y R b a)) = star (explicitSum χ (iRvec.map fun R => (R, Y R a b))) := by
  unfold explicitSum
  rw [star_sumK, List.map_map, List.map_map, List.map_map]
  have h1 : sumK (iRvec.map ((fun e : Vec3 × K => χ e.1 * e.2) ∘ fun R => (R, Y R b a)))
      = sumK ((iRvec.map vneg).map fun R => χ R * Y R b a) :=
    sumK_perm ((hsym.map _).symm)
  rw [h1, List.map_map]
  apply sumK_map_congr
  intro R _
  simp only [Function.comp, star_mul', hχ R, hY R a b]

/-! ### the `hermitian=True` option -/

theorem hermitize_hermitian (A : Nat → Nat → K) (a b : Nat) :
    hermitize ((2 : K)⁻¹) star A b a = star (hermitize ((2 : K)⁻¹) star A a b) := by
  rw [hermitize, hermitize, star_mul', star_add, star_star, star_inv₀, star_ofNat, add_comm]

theorem hermitize_fix (h2 : (2 : K) ≠ 0) (A : Nat → Nat → K) (hA : ∀ a b, A b a = star (A a b)) (a b : Nat) :
    hermitize ((2 : K)⁻¹) star A a b = A a b := by
  rw [hermitize, hA a b, star_star, ← two_mul, inv_mul_cancel_left₀ h2]

end herm

end WB.C02
