/-
  C20 — the marking loop of `find_irreducible_Rab`.
-/
import WB.Model.C20
import Mathlib.Data.List.Basic

namespace WB.C20

/-- the state seen as a predicate on positions -/
def view (irr : List Bool) (z : Nat) : Bool := irr.getD z false

theorem view_set_false (irr : List Bool) (y z : Nat) :
    view (irr.set y false) z = if z = y then false else view irr z := by
  unfold view
  rw [List.getD_eq_getElem?_getD, List.getD_eq_getElem?_getD, List.getElem?_set]
  by_cases h : y = z
  · subst h
    simp only [↓reduceIte]
    by_cases hl : y < irr.length <;> simp [hl]
  · have h' : ¬ z = y := fun e => h e.symm
    simp [h, h']

theorem view_replicate (N z : Nat) : view (List.replicate N true) z = decide (z < N) := by
  unfold view
  rw [List.getD_eq_getElem?_getD]
  by_cases h : z < N <;> simp [h]

/-- `t` is a later state than `s`: everything still unmarked in `t` was unmarked in `s` -/
def Later (s t : List Bool) : Prop := ∀ z, view t z = true → view s z = true

theorem Later.refl (s : List Bool) : Later s s := fun _ h => h
theorem Later.trans {s t u : List Bool} (h1 : Later s t) (h2 : Later t u) : Later s u :=
  fun z h => h1 z (h2 z h)

theorem markStep_view (act : Nat → Option Nat) (irr : List Bool) (x z : Nat) :
    view (markStep act irr x) z =
      if view irr x = true ∧ (∃ y, act x = some y ∧ x < y ∧ z = y) then false else view irr z := by
  unfold markStep
  cases hy : act x with
  | none =>
    simp only [reduceCtorEq, false_and, exists_false, and_false, if_false]
    split_ifs <;> rfl
  | some y =>
    simp only
    split_ifs with hx hxy hc hc hc
    · rw [view_set_false, if_pos]
      obtain ⟨_, _, hw, _, h⟩ := hc; cases hw; exact h
    · rw [view_set_false, if_neg]
      rintro rfl
      exact hc ⟨hx, z, rfl, hxy, rfl⟩
    · obtain ⟨_, _, hw, h, _⟩ := hc; cases hw; exact absurd h hxy
    · rfl
    · exact absurd hc.1 hx
    · rfl

theorem markStep_later (act : Nat → Option Nat) (irr : List Bool) (x : Nat) :
    Later irr (markStep act irr x) := by
  intro z h
  rw [markStep_view] at h
  split at h
  · cases h
  · exact h

theorem foldl_later {α : Type} (f : List Bool → α → List Bool) (hf : ∀ s x, Later s (f s x)) :
    ∀ (l : List α) (s : List Bool), Later s (l.foldl f s)
  | [], s => Later.refl s
  | x :: l, _ => (hf _ x).trans (foldl_later f hf l _)

theorem markOp_later (N : Nat) (irr : List Bool) (act : Nat → Option Nat) : Later irr (markOp N irr act) :=
  foldl_later _ (markStep_later act) _ irr

theorem foldl_exists_marking_step {α : Type} (f : List Bool → α → List Bool) : ∀ (l : List α) (s : List Bool) (z : Nat),
    view s z = true → view (l.foldl f s) z = false → ∃ x ∈ l, ∃ s', view s' z = true ∧ view (f s' x) z = false
  | [], s, z, h0, h1 => by rw [List.foldl_nil, h0] at h1; cases h1
  | x :: l, s, z, h0, h1 => by
    cases hz : view (f s x) z
    · exact ⟨x, List.mem_cons_self, s, h0, hz⟩
    · obtain ⟨x', hx', h⟩ := foldl_exists_marking_step f l _ z hz h1
      exact ⟨x', List.mem_cons_of_mem _ hx', h⟩

theorem foldl_markOp_marked (N : Nat) (ops : List (Nat → Option Nat)) (irr : List Bool) (z : Nat)
    (h0 : view irr z = true) (h1 : view (ops.foldl (markOp N) irr) z = false) :
    ∃ g ∈ ops, ∃ x, x < N ∧ g x = some z ∧ x < z := by
  obtain ⟨g, hg, s, hs0, hs1⟩ := foldl_exists_marking_step _ ops irr z h0 h1
  obtain ⟨x, hx, s', hs0', hs1'⟩ := foldl_exists_marking_step _ (List.range N) s z hs0 hs1
  rw [markStep_view] at hs1'
  split at hs1'
  · rename_i hc
    obtain ⟨_, y, hy1, hy2, rfl⟩ := hc
    exact ⟨g, hg, x, List.mem_range.1 hx, hy1, hy2⟩
  · rw [hs0'] at hs1'; cases hs1'

/-- `hx`: whenever `m` survives step `x`, `y` is marked after it -/
theorem foldl_stays_marked {α : Type} (f : List Bool → α → List Bool) (hf : ∀ s x, Later s (f s x)) (x : α) (m y : Nat)
    (hx : ∀ s, view (f s x) m = true → view (f s x) y = false) :
    ∀ (l : List α) (s : List Bool), x ∈ l → view (l.foldl f s) m = true → view (l.foldl f s) y = false
  | x' :: l, s, hmem, hfin => by
    rw [List.foldl_cons] at hfin ⊢
    rcases List.mem_cons.1 hmem with rfl | hmem
    · have h1 := hx s (foldl_later f hf l _ m hfin)
      cases hv : view (l.foldl f (f s x)) y
      · rfl
      · rw [foldl_later f hf l _ y hv] at h1; cases h1
    · exact foldl_stays_marked f hf x m y hx l _ hmem hfin

/-- outer fold over the operations, inner over the points; `Later` carries "`m` unmarked" backwards and "`y` marked"
    forwards -/
theorem marked_after (N : Nat) (ops : List (Nat → Option Nat)) (g : Nat → Option Nat) (hg : g ∈ ops) (m y : Nat)
    (hm : m < N) (hgm : g m = some y) (hlt : m < y) (s : List Bool)
    (hfinal : view (ops.foldl (markOp N) s) m = true) : view (ops.foldl (markOp N) s) y = false :=
  foldl_stays_marked (markOp N) (markOp_later N) g m y
    (fun s => foldl_stays_marked (markStep g) (markStep_later g) m m y
      (fun s' h => by rw [markStep_view, if_pos ⟨markStep_later g s' m m h, y, hgm, hlt, rfl⟩])
      (List.range N) s (List.mem_range.2 hm))
    ops s hg hfinal

end WB.C20
