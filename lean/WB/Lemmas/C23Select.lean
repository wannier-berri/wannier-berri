/-
  C23 — the selection loop of `grid_from_kpoints` and the counting argument.
-/
import WB.Lemmas.C23Detect
import Mathlib.Data.List.Nodup
import Mathlib.Data.Finset.Prod
import Mathlib.Data.Finset.Card
import Mathlib.Data.Int.Interval

namespace WB.C23

def Reduced (k : K3) : Prop := (0 ≤ k.1 ∧ k.1 < 1) ∧ (0 ≤ k.2.1 ∧ k.2.1 < 1) ∧ (0 ≤ k.2.2 ∧ k.2.2 < 1)

def GPos (g : G3) : Prop := 0 < g.1 ∧ 0 < g.2.1 ∧ 0 < g.2.2

def meshPt (g : G3) (i j l : Nat) : K3 := ((i : Rat) / g.1, (j : Rat) / g.2.1, (l : Rat) / g.2.2)

/-- `ks` lists exactly the points of the Γ-centred mesh `N` (coordinates in `[0,1)`), in any order,
    possibly with repetitions -/
def IsMesh (N : G3) (ks : List K3) : Prop :=
  (∀ k ∈ ks, ∃ i j l, i < N.1 ∧ j < N.2.1 ∧ l < N.2.2 ∧ k = meshPt N i j l) ∧
  (∀ i j l, i < N.1 → j < N.2.1 → l < N.2.2 → meshPt N i j l ∈ ks)

/-- `IsMesh` with bounded quantifiers and `contains`: the form `decide` evaluates -/
theorem isMesh_iff_bounded (N : G3) (ks : List K3) : IsMesh N ks ↔
    (∀ k ∈ ks, ∃ i < N.1, ∃ j < N.2.1, ∃ l < N.2.2, k = meshPt N i j l) ∧
      ∀ i < N.1, ∀ j < N.2.1, ∀ l < N.2.2, ks.contains (meshPt N i j l) = true :=
  and_congr
    (forall₂_congr fun _ _ => ⟨fun ⟨i, j, l, hi, hj, hl, e⟩ => ⟨i, hi, j, hj, l, hl, e⟩,
      fun ⟨i, hi, j, hj, l, hl, e⟩ => ⟨i, j, l, hi, hj, hl, e⟩⟩)
    ⟨fun h i hi j hj l hl => List.contains_iff_mem.2 (h i j l hi hj hl),
      fun h i j l hi hj hl => List.contains_iff_mem.1 (h i hi j hj l hl)⟩

section
variable {α : Type} {N : G3} {l : List α} {f : α → K3}

theorem IsMesh.fst (hN : GPos N) (h : IsMesh N (l.map f)) : IsMesh1 N.1 (l.map fun a => (f a).1) :=
  ⟨List.forall_mem_map.2 fun _ ha =>
      let ⟨i, _, _, hi, _, _, e⟩ := h.1 _ (List.mem_map_of_mem ha); ⟨i, hi, congrArg (·.1) e⟩,
    fun i hi => let ⟨a, ha, e⟩ := List.mem_map.1 (h.2 i 0 0 hi hN.2.1 hN.2.2); List.mem_map.2 ⟨a, ha, congrArg (·.1) e⟩⟩

theorem IsMesh.snd (hN : GPos N) (h : IsMesh N (l.map f)) : IsMesh1 N.2.1 (l.map fun a => (f a).2.1) :=
  ⟨List.forall_mem_map.2 fun _ ha =>
      let ⟨_, j, _, _, hj, _, e⟩ := h.1 _ (List.mem_map_of_mem ha); ⟨j, hj, congrArg (·.2.1) e⟩,
    fun j hj => let ⟨a, ha, e⟩ := List.mem_map.1 (h.2 0 j 0 hN.1 hj hN.2.2); List.mem_map.2 ⟨a, ha, congrArg (·.2.1) e⟩⟩

theorem IsMesh.trd (hN : GPos N) (h : IsMesh N (l.map f)) : IsMesh1 N.2.2 (l.map fun a => (f a).2.2) :=
  ⟨List.forall_mem_map.2 fun _ ha =>
      let ⟨_, _, k, _, _, hk, e⟩ := h.1 _ (List.mem_map_of_mem ha); ⟨k, hk, congrArg (·.2.2) e⟩,
    fun k hk => let ⟨a, ha, e⟩ := List.mem_map.1 (h.2 0 0 k hN.1 hN.2.1 hk); List.mem_map.2 ⟨a, ha, congrArg (·.2.2) e⟩⟩

end

theorem roundInt_intCast (z : Int) : roundInt (z : Rat) = z := by
  show ⌊(z : Rat) + 1 / 2⌋ = z
  rw [Int.floor_intCast_add, Int.floor_eq_zero_iff.2 ⟨by norm_num, by norm_num⟩, add_zero]

theorem onGrid_iff (g : G3) (k : K3) : onGrid g k = true ↔
    (∃ a : Int, k.1 * g.1 = a) ∧ (∃ b : Int, k.2.1 * g.2.1 = b) ∧ (∃ c : Int, k.2.2 * g.2.2 = c) := by
  unfold onGrid
  simp only [Bool.and_eq_true, isInt_iff, and_assoc]

theorem natCast_div_mul {n : Nat} (hn : 0 < n) (i : Nat) : (i : Rat) / n * n = ((i : Int) : Rat) := by
  rw [Int.cast_natCast, div_mul_cancel₀]
  exact_mod_cast hn.ne'

theorem mul_natCast_cancel {n : Nat} {x x' : Rat} {z z' : Int} (hn : 0 < n) (hx : x * n = z) (hx' : x' * n = z')
    (hz : z = z') : x = x' :=
  mul_right_cancel₀ (b := (n : Rat)) (by exact_mod_cast hn.ne') (by rw [hx, hx', hz])

theorem int_of_reduced {x : Rat} {n : Nat} {a : Int} (hn : 0 < n) (h0 : 0 ≤ x) (h1 : x < 1) (e : x * n = a) :
    0 ≤ a ∧ a < n := by
  have hnq : (0 : Rat) < n := Nat.cast_pos.2 hn
  constructor
  · exact Int.cast_nonneg_iff.1 (e ▸ mul_nonneg h0 hnq.le)
  · exact Int.cast_lt.1 (by rw [← e, Int.cast_natCast]; exact mul_lt_of_lt_one_left hnq h1)

theorem natCast_div_reduced {a n : Nat} (h : a < n) : (0 : Rat) ≤ (a : Rat) / n ∧ (a : Rat) / n < 1 := by
  have hn : (0 : Rat) < n := by exact_mod_cast Nat.zero_lt_of_lt h
  exact ⟨div_nonneg (Nat.cast_nonneg a) hn.le, (div_lt_one hn).2 (by exact_mod_cast h)⟩

theorem meshPt_reduced (N : G3) (i j l : Nat) (hi : i < N.1) (hj : j < N.2.1) (hl : l < N.2.2) :
    Reduced (meshPt N i j l) :=
  ⟨natCast_div_reduced hi, natCast_div_reduced hj, natCast_div_reduced hl⟩

theorem isMesh_reduced (N : G3) (ks : List K3) (h : IsMesh N ks) : ∀ k ∈ ks, Reduced k := by
  intro k hk
  obtain ⟨i, j, l, hi, hj, hl, rfl⟩ := h.1 k hk
  exact meshPt_reduced N i j l hi hj hl

theorem kint_inj (g : G3) (hg : GPos g) (k k' : K3) (h : onGrid g k = true) (h' : onGrid g k' = true)
    (e : kint g k = kint g k') : k = k' := by
  obtain ⟨⟨a, ha⟩, ⟨b, hb⟩, ⟨c, hc⟩⟩ := (onGrid_iff g k).1 h
  obtain ⟨⟨a', ha'⟩, ⟨b', hb'⟩, ⟨c', hc'⟩⟩ := (onGrid_iff g k').1 h'
  unfold kint at e
  rw [ha, hb, hc, ha', hb', hc'] at e
  simp only [roundInt_intCast, Prod.mk.injEq] at e
  exact Prod.ext (mul_natCast_cancel hg.1 ha ha' e.1)
    (Prod.ext (mul_natCast_cancel hg.2.1 hb hb' e.2.1) (mul_natCast_cancel hg.2.2 hc hc' e.2.2))

theorem onGrid_meshPt (g : G3) (hg : GPos g) (i j l : Nat) : onGrid g (meshPt g i j l) = true :=
  (onGrid_iff g _).2 ⟨⟨i, natCast_div_mul hg.1 i⟩, ⟨j, natCast_div_mul hg.2.1 j⟩, ⟨l, natCast_div_mul hg.2.2 l⟩⟩

theorem kint_meshPt (g : G3) (hg : GPos g) (i j l : Nat) : kint g (meshPt g i j l) = ((i : Int), (j : Int), (l : Int)) := by
  unfold kint meshPt
  simp only [natCast_div_mul hg.1, natCast_div_mul hg.2.1, natCast_div_mul hg.2.2, roundInt_intCast]

theorem selectFrom_cons (g : G3) (k : K3) (i : Nat) (rest : List (K3 × Nat)) (seen : List I3) :
    selectFrom g ((k, i) :: rest) seen = if onGrid g k = true ∧ kint g k ∉ seen
      then (k, i) :: selectFrom g rest (kint g k :: seen) else selectFrom g rest seen := by
  rw [selectFrom]
  simp only [Bool.and_eq_true, Bool.not_eq_true', List.contains_eq_mem, decide_eq_false_iff_not]

theorem selectFrom_sublist (g : G3) : ∀ (l : List (K3 × Nat)) (seen : List I3), (selectFrom g l seen).Sublist l
  | [], _ => by rw [selectFrom]
  | (k, i) :: rest, seen => by
    rw [selectFrom_cons]
    split_ifs
    · exact (selectFrom_sublist g rest _).cons_cons _
    · exact (selectFrom_sublist g rest _).cons _

theorem selectFrom_mem (g : G3) : ∀ (l : List (K3 × Nat)) (seen : List I3), ∀ p ∈ selectFrom g l seen,
    onGrid g p.1 = true ∧ kint g p.1 ∉ seen
  | [], _, p, hp => by rw [selectFrom] at hp; cases hp
  | (k, i) :: rest, seen, p, hp => by
    rw [selectFrom_cons] at hp
    split_ifs at hp with hc
    · rcases List.mem_cons.mp hp with rfl | hp
      · exact hc
      · have := selectFrom_mem g rest _ p hp
        exact ⟨this.1, fun h => this.2 (List.mem_cons_of_mem _ h)⟩
    · exact selectFrom_mem g rest _ p hp

theorem selectFrom_nodup (g : G3) : ∀ (l : List (K3 × Nat)) (seen : List I3),
    ((selectFrom g l seen).map (fun p => kint g p.1)).Nodup
  | [], _ => by rw [selectFrom]; exact List.nodup_nil
  | (k, i) :: rest, seen => by
    rw [selectFrom_cons]
    split_ifs
    · rw [List.map_cons, List.nodup_cons]
      refine ⟨fun hmem => ?_, selectFrom_nodup g rest _⟩
      obtain ⟨p, hp, hpe⟩ := List.mem_map.mp hmem
      exact (selectFrom_mem g rest _ p hp).2 (hpe ▸ List.mem_cons_self)
    · exact selectFrom_nodup g rest _

theorem selectFrom_covers (g : G3) : ∀ (l : List (K3 × Nat)) (seen : List I3), ∀ p ∈ l, onGrid g p.1 = true →
    kint g p.1 ∈ seen ∨ kint g p.1 ∈ (selectFrom g l seen).map (fun p => kint g p.1)
  | [], _, _, hp, _ => by cases hp
  | (k, i) :: rest, seen, p, hp, hon => by
    rw [selectFrom_cons]
    split_ifs with hc
    · rw [List.map_cons, List.mem_cons]
      rcases List.mem_cons.mp hp with rfl | hp
      · exact Or.inr (Or.inl rfl)
      · rcases selectFrom_covers g rest _ p hp hon with h | h
        · rcases List.mem_cons.mp h with h | h
          · exact Or.inr (Or.inl h)
          · exact Or.inl h
        · exact Or.inr (Or.inr h)
    · rcases List.mem_cons.mp hp with rfl | hp
      · exact Or.inl (not_not.1 fun h => hc ⟨hon, h⟩)
      · exact selectFrom_covers g rest _ p hp hon

/-- the model's intermediate list of selected `(k, i)` pairs (`select` is its second components) -/
def selPairs (g : G3) (ks : List K3) : List (K3 × Nat) := selectFrom g ks.zipIdx []
/-- the integer triples of the selected points -/
def selKints (g : G3) (ks : List K3) : List I3 := (selPairs g ks).map (fun p => kint g p.1)

theorem select_eq (g : G3) (ks : List K3) : select g ks = (selPairs g ks).map (·.2) := rfl

theorem selPairs_mem (g : G3) (ks : List K3) (p : K3 × Nat) (hp : p ∈ selPairs g ks) :
    ks[p.2]? = some p.1 ∧ p.1 ∈ ks ∧ onGrid g p.1 = true := by
  have h1 : p ∈ ks.zipIdx := (selectFrom_sublist g _ _).subset hp
  have h2 : ks[p.2]? = some p.1 := List.mem_zipIdx_iff_getElem?.1 h1
  exact ⟨h2, List.mem_of_getElem? h2, (selectFrom_mem g _ _ p hp).1⟩

theorem selKints_nodup (g : G3) (ks : List K3) : (selKints g ks).Nodup := selectFrom_nodup g _ _

theorem selKints_covers (g : G3) (ks : List K3) (k : K3) (hk : k ∈ ks) (hon : onGrid g k = true) :
    kint g k ∈ selKints g ks := by
  obtain ⟨i, hki⟩ := List.mem_iff_getElem?.1 hk
  have hm : (k, i) ∈ ks.zipIdx := List.mem_zipIdx_iff_getElem?.2 hki
  rcases selectFrom_covers g ks.zipIdx [] (k, i) hm hon with h | h
  · simp at h
  · exact h

theorem mem_selKints_iff_meshPt_mem (g : G3) (hg : GPos g) (ks : List K3) (i j l : Nat) :
    ((i : Int), (j : Int), (l : Int)) ∈ selKints g ks ↔ meshPt g i j l ∈ ks := by
  rw [← kint_meshPt g hg]
  refine ⟨fun h => ?_, fun h => selKints_covers g ks _ h (onGrid_meshPt g hg i j l)⟩
  obtain ⟨p, hp, hpe⟩ := List.mem_map.mp h
  obtain ⟨_, hmem, hon⟩ := selPairs_mem g ks p hp
  exact kint_inj g hg _ _ hon (onGrid_meshPt g hg i j l) hpe ▸ hmem

theorem length_select_eq_card (g : G3) (ks : List K3) : (select g ks).length = (selKints g ks).toFinset.card := by
  rw [List.toFinset_card_of_nodup (selKints_nodup g ks), selKints, List.length_map, select_eq, List.length_map]

def box (g : G3) : Finset I3 :=
  Finset.Ico (0 : Int) g.1 ×ˢ Finset.Ico (0 : Int) g.2.1 ×ˢ Finset.Ico (0 : Int) g.2.2

theorem card_box (g : G3) : (box g).card = numGrid g := by
  simp [box, numGrid, Finset.card_product, Int.card_Ico, Nat.mul_assoc]

theorem mem_box (g : G3) (p : I3) : p ∈ box g ↔
    (0 ≤ p.1 ∧ p.1 < g.1) ∧ (0 ≤ p.2.1 ∧ p.2.1 < g.2.1) ∧ (0 ≤ p.2.2 ∧ p.2.2 < g.2.2) := by
  simp only [box, Finset.mem_product, Finset.mem_Ico]

theorem kint_mem_box (g : G3) (hg : GPos g) (k : K3) (hr : Reduced k) (h : onGrid g k = true) : kint g k ∈ box g := by
  obtain ⟨⟨a, ha⟩, ⟨b, hb⟩, ⟨c, hc⟩⟩ := (onGrid_iff g k).1 h
  unfold kint
  rw [mem_box, ha, hb, hc, roundInt_intCast, roundInt_intCast, roundInt_intCast]
  exact ⟨int_of_reduced hg.1 hr.1.1 hr.1.2 ha, int_of_reduced hg.2.1 hr.2.1.1 hr.2.1.2 hb,
    int_of_reduced hg.2.2 hr.2.2.1 hr.2.2.2 hc⟩

theorem selKints_subset_box (g : G3) (hg : GPos g) (ks : List K3) (hr : ∀ k ∈ ks, Reduced k) :
    (selKints g ks).toFinset ⊆ box g := by
  intro x hx
  obtain ⟨p, hp, rfl⟩ := List.mem_map.mp (List.mem_toFinset.1 hx)
  obtain ⟨_, hmem, hon⟩ := selPairs_mem g ks p hp
  exact kint_mem_box g hg p.1 (hr _ hmem) hon

theorem length_select_le (g : G3) (hg : GPos g) (ks : List K3) (hr : ∀ k ∈ ks, Reduced k) :
    (select g ks).length ≤ numGrid g := by
  rw [length_select_eq_card, ← card_box]
  exact Finset.card_le_card (selKints_subset_box g hg ks hr)

end WB.C23
