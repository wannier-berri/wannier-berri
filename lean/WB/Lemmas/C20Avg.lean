/-
  C20 — the two group averages; the block formula of `SymWann.average_XX_block` / `_rotate_XX_L_backwards` over an
  abstract representation, as a group action on the real-space matrices; its entries are the model's `pullEntry`.

  For one pair of blocks (left block: atoms `A₁`, `n₁` orbitals per atom; right block: atoms `A₂`, `n₂` orbitals), one
  operation `h` contributes to the entry `(R, a, b)` of the result the "pull-back"

      pull h X (R, a, b)_i = conj^{tr h} ( Σ_j Rc(h)_{j i} · D₁(h,a)† · X(h·R + T₁(h,a) − T₂(h,b), h·a, h·b)_j · D₂(h,b) )

  exactly as the code computes it: `new_Rvec = R_map + T1[a] − T2[b]`, `XX_L = X[(a_map, b_map)][new_Rvec]`,
  `np.tensordot(XX_L, rotation_cart)` on the Cartesian index (the parity factor `parity_I·(−1)^ncart` for inversions and
  `parity_TR` for time reversal are the sign characters folded into `Rc`), `L = rot_orb_dagger[a, isym]`,
  `R = rot_orb[b, isym]`, and `.conj()` for time-reversal operations.
-/
import WB.Model.C20
import Mathlib.LinearAlgebra.Matrix.ConjTranspose
import Mathlib.Data.Matrix.Mul
import Mathlib.Algebra.Module.BigOperators
import Mathlib.Algebra.Group.Action.Defs
import Mathlib.Algebra.Star.BigOperators
import Mathlib.Data.Fintype.BigOperators
import Mathlib.Algebra.Algebra.Rat
import Mathlib.Algebra.BigOperators.Fin

namespace WB.C20
open Matrix

section avg
variable {G V K : Type*} [Group G] [Fintype G] [AddCommGroup V] [DistribMulAction G V]
  [DivisionRing K] [Module K V]

variable (G K) in
/-- the symmetrised object: `(1/|G|) Σ_g g • v` (mode "sum" of `average_XX_block` divides by the number of
    operations).  `G` acts additively and commutes with the scalars `K` (for antiunitary operations take `K = ℝ`). -/
noncomputable def avg (v : V) : V := ((Fintype.card G : K)⁻¹) • ∑ g : G, g • v

variable (G) in
/-- the sum over the operations actually used (`G` = the group selected with `use_symmetries_index`), divided by an
    arbitrary count `n` -/
noncomputable def avgN (n : K) (v : V) : V := n⁻¹ • ∑ g : G, g • v

theorem avgN_of_invariant (n : K) (v : V) (hv : ∀ g : G, g • v = v) :
    avgN G n v = (n⁻¹ * (Fintype.card G : K)) • v := by
  unfold avgN
  simp only [hv, Finset.sum_const, Finset.card_univ]
  rw [← Nat.cast_smul_eq_nsmul K, smul_smul]

end avg

section cj
variable {m n p K : Type*} [Field K] [StarRing K]

/-- complex conjugation of every entry when the operation contains time reversal -/
def cj (b : Bool) (M : Matrix m n K) : Matrix m n K := if b then M.map star else M

theorem cj_cj (b1 b2 : Bool) (M : Matrix m n K) : cj b1 (cj b2 M) = cj (xor b1 b2) M := by
  cases b1 <;> cases b2 <;> try rfl
  ext i j; exact star_star _

theorem cj_self (b : Bool) (M : Matrix m n K) : cj b (cj b M) = M := by
  rw [cj_cj, Bool.xor_self]; rfl

theorem cj_mul [Fintype n] (b : Bool) (M : Matrix m n K) (N : Matrix n p K) : cj b (M * N) = cj b M * cj b N := by
  cases b
  exacts [rfl, Matrix.map_mul (f := starRingEnd K)]

theorem cj_conjTranspose (b : Bool) (M : Matrix m n K) : cj b Mᴴ = (cj b M)ᴴ := by
  cases b
  exacts [rfl, conjTranspose_map star fun _ => rfl]

theorem cj_smul_real (b : Bool) (r : K) (hr : star r = r) (M : Matrix m n K) : cj b (r • M) = r • cj b M := by
  cases b
  exacts [rfl, Matrix.map_smul star r (fun a => by rw [smul_eq_mul, star_mul', hr, smul_eq_mul]) M]

theorem cj_rat_smul [CharZero K] (b : Bool) (q : ℚ) (M : Matrix m n K) : cj b (q • M) = q • cj b M := by
  cases b
  exacts [rfl, Matrix.map_smul star q (fun a => by rw [Rat.smul_def, star_mul', star_ratCast, Rat.smul_def]) M]

theorem cj_add (b : Bool) (M N : Matrix m n K) : cj b (M + N) = cj b M + cj b N := by
  cases b
  exacts [rfl, Matrix.map_add star star_add M N]

theorem cj_zero (b : Bool) : cj b (0 : Matrix m n K) = 0 := by
  cases b
  exacts [rfl, Matrix.map_zero star (star_zero K)]

theorem cj_sum {s : Type*} (b : Bool) (S : Finset s) (f : s → Matrix m n K) :
    cj b (∑ x ∈ S, f x) = ∑ x ∈ S, cj b (f x) := by
  classical
  induction S using Finset.induction_on with
  | empty => simp [cj_zero]
  | insert a S ha ih => rw [Finset.sum_insert ha, Finset.sum_insert ha, cj_add, ih]

end cj

section rotate
variable {n₁ n₂ c K : Type*} [Fintype n₁] [Fintype n₂] [Fintype c] [Field K] [StarRing K]

/-- `_rotate_XX_L_backwards` on one source entry `Y` (an `n₁ × n₂` matrix per Cartesian component): the matrix form of
    the model's `pullEntry` -/
def rotateBack (t : Bool) (r : Matrix c c K) (A : Matrix n₁ n₁ K) (C : Matrix n₂ n₂ K) (Y : c → Matrix n₁ n₂ K) :
    c → Matrix n₁ n₂ K :=
  fun i => cj t (∑ j, r j i • (Aᴴ * Y j * C))

variable (t : Bool) (r : Matrix c c K) (A : Matrix n₁ n₁ K) (C : Matrix n₂ n₂ K)

theorem rotateBack_add (Y Z : c → Matrix n₁ n₂ K) : rotateBack t r A C (Y + Z) = rotateBack t r A C Y + rotateBack t r A C Z := by
  funext i
  simp only [rotateBack, Pi.add_apply, Matrix.mul_add, Matrix.add_mul, smul_add, Finset.sum_add_distrib, cj_add]

theorem rotateBack_phase {ω : K} (hω : star ω * ω = 1) (Y : c → Matrix n₁ n₂ K) :
    rotateBack t r (ω • A) (ω • C) Y = rotateBack t r A C Y := by
  have hω' : ω * star ω = 1 := by rw [mul_comm, hω]
  funext i
  simp only [rotateBack, conjTranspose_smul, Matrix.smul_mul, Matrix.mul_smul, smul_smul, hω', mul_one]

theorem rotateBack_one [DecidableEq n₁] [DecidableEq n₂] [DecidableEq c] {z : K} (hz : star z * z = 1)
    (Y : c → Matrix n₁ n₂ K) : rotateBack false 1 (z • 1 : Matrix n₁ n₁ K) (z • 1 : Matrix n₂ n₂ K) Y = Y := by
  rw [rotateBack_phase _ _ _ _ hz]
  funext i
  simp only [rotateBack, cj, Bool.false_eq_true, if_false, conjTranspose_one, Matrix.one_mul, Matrix.mul_one,
    Matrix.one_apply, ite_smul, one_smul, zero_smul, Finset.sum_ite_eq', Finset.mem_univ, if_true]

theorem rotateBack_conjTranspose (hr : ∀ i j, star (r i j) = r i j) (Y : c → Matrix n₁ n₂ K) (i : c) :
    (rotateBack t r A C Y i)ᴴ = rotateBack t r C A (fun j => (Y j)ᴴ) i := by
  simp only [rotateBack, ← cj_conjTranspose, conjTranspose_sum, conjTranspose_smul, hr, conjTranspose_mul,
    conjTranspose_conjTranspose, Matrix.mul_assoc]

theorem rotateBack_comp (t1 t2 : Bool) (A1 A2 : Matrix n₁ n₁ K) (C1 C2 : Matrix n₂ n₂ K) (r1 r2 : Matrix c c K)
    (hr1 : ∀ i j, star (r1 i j) = r1 i j) (Y : c → Matrix n₁ n₂ K) :
    rotateBack t1 r1 A1 C1 (rotateBack t2 r2 A2 C2 Y)
      = rotateBack (xor t1 t2) (r2 * r1) (A2 * cj t2 A1) (C2 * cj t2 C1) Y := by
  funext i
  unfold rotateBack
  rw [← cj_cj]
  congr 1
  -- move the inner conjugation to the left and push it through the sandwich
  refine (cj_self t2 _).symm.trans (congrArg (cj t2) ?_)
  simp only [cj_sum, cj_smul_real, hr1, cj_mul, cj_conjTranspose, cj_self]
  simp only [Matrix.mul_sum, Matrix.sum_mul, Matrix.mul_smul, Matrix.smul_mul, Finset.smul_sum, smul_smul]
  rw [Finset.sum_comm]
  apply Finset.sum_congr rfl
  intro l _
  rw [Matrix.mul_apply, Finset.sum_smul]
  apply Finset.sum_congr rfl
  intro j _
  rw [conjTranspose_mul, mul_comm (r1 j i) (r2 l j)]
  simp only [Matrix.mul_assoc]

theorem rotateBack_rat_smul [CharZero K] (q : ℚ) (Y : c → Matrix n₁ n₂ K) :
    rotateBack t r A C (q • Y) = q • rotateBack t r A C Y := by
  funext i
  simp only [rotateBack, Pi.smul_apply, Matrix.mul_smul, Matrix.smul_mul, smul_comm _ q, ← Finset.smul_sum,
    cj_rat_smul]

end rotate

/-- the abstract representation data behind one pair of blocks -/
structure BlockRep (G ι A₁ A₂ n₁ n₂ c K : Type*) [Group G] [AddCommGroup ι] [DistribMulAction G ι]
    [MulAction G A₁] [MulAction G A₂] [Fintype n₁] [Fintype n₂] [DecidableEq n₁] [DecidableEq n₂]
    [Fintype c] [DecidableEq c] [Field K] [StarRing K] where
  /-- lattice vector that brings the image of atom `a` back to the home cell (`T_list[block][a, isym]`) -/
  T₁ : G → A₁ → ι
  T₂ : G → A₂ → ι
  /-- orbital rotation matrices (`rot_orb_list[block][a, isym]`) -/
  D₁ : G → A₁ → Matrix n₁ n₁ K
  D₂ : G → A₂ → Matrix n₂ n₂ K
  /-- the operation contains time reversal -/
  tr : G → Bool
  /-- rotation of the Cartesian index, times the I / TR parity signs of the matrix type -/
  Rc : G → Matrix c c K
  /-- phase of the (projective, for spinors) representation; common to both blocks -/
  ω : G → G → K
  T_cocycle : ∀ g h a b, T₁ (g * h) a - T₂ (g * h) b = g • (T₁ h a - T₂ h b) + (T₁ g (h • a) - T₂ g (h • b))
  D₁_cocycle : ∀ g h a, D₁ (g * h) a = ω g h • (D₁ g (h • a) * cj (tr g) (D₁ h a))
  D₂_cocycle : ∀ g h b, D₂ (g * h) b = ω g h • (D₂ g (h • b) * cj (tr g) (D₂ h b))
  ω_unit : ∀ g h, star (ω g h) * ω g h = 1
  one_scalar : ∃ z : K, star z * z = 1 ∧ (∀ a, D₁ 1 a = z • 1) ∧ (∀ b, D₂ 1 b = z • 1)
  tr_mul : ∀ g h, tr (g * h) = xor (tr g) (tr h)
  Rc_mul : ∀ g h, Rc (g * h) = Rc g * Rc h
  Rc_one : Rc 1 = 1
  Rc_real : ∀ g i j, star (Rc g i j) = Rc g i j

section pull
variable {G ι A₁ A₂ n₁ n₂ c K : Type*} [Group G] [AddCommGroup ι] [DistribMulAction G ι]
    [MulAction G A₁] [MulAction G A₂] [Fintype n₁] [Fintype n₂] [DecidableEq n₁] [DecidableEq n₂]
    [Fintype c] [DecidableEq c] [Field K] [StarRing K]

/-- the space of real-space matrices of one block pair: `X(R, a, b)_i`, an `n₁ × n₂` matrix per Cartesian component -/
def BlockFn (_S : BlockRep G ι A₁ A₂ n₁ n₂ c K) : Type _ := ι → A₁ → A₂ → c → Matrix n₁ n₂ K

instance (S : BlockRep G ι A₁ A₂ n₁ n₂ c K) : AddCommGroup (BlockFn S) :=
  inferInstanceAs (AddCommGroup (ι → A₁ → A₂ → c → Matrix n₁ n₂ K))

variable (S : BlockRep G ι A₁ A₂ n₁ n₂ c K)

/-- the contribution of operation `h`, as `average_XX_block` + `_rotate_XX_L_backwards` compute it -/
def pull (h : G) (X : BlockFn S) : BlockFn S := fun R a b i =>
  cj (S.tr h) (∑ j, S.Rc h j i • ((S.D₁ h a)ᴴ * X (h • R + S.T₁ h a - S.T₂ h b) (h • a) (h • b) j * S.D₂ h b))

theorem pull_eq (h : G) (X : BlockFn S) (R : ι) (a : A₁) (b : A₂) :
    pull S h X R a b = rotateBack (S.tr h) (S.Rc h) (S.D₁ h a) (S.D₂ h b)
      (X (h • R + S.T₁ h a - S.T₂ h b) (h • a) (h • b)) := rfl

theorem tr_one : S.tr 1 = false := by
  have := S.tr_mul 1 1
  rwa [one_mul, Bool.xor_self] at this

theorem T_one (a : A₁) (b : A₂) : S.T₁ 1 a - S.T₂ 1 b = 0 := by
  have := S.T_cocycle 1 1 a b
  rwa [one_mul, one_smul, one_smul, one_smul, left_eq_add] at this

theorem pull_one (X : BlockFn S) : pull S 1 X = X := by
  obtain ⟨z, hz, h1, h2⟩ := S.one_scalar
  funext R a b
  rw [pull_eq, tr_one, S.Rc_one, h1, h2, rotateBack_one hz, one_smul, one_smul, one_smul, add_sub_assoc, T_one,
    add_zero]

omit [DecidableEq n₁] [DecidableEq n₂] [DecidableEq c] in
theorem sandwich (t1 t2 : Bool) (A1 A2 : Matrix n₁ n₁ K) (C1 C2 : Matrix n₂ n₂ K) (r1 r2 : Matrix c c K)
    (hr1 : ∀ i j, star (r1 i j) = r1 i j) (Y : c → Matrix n₁ n₂ K) (i : c) :
    cj t1 (∑ j, r1 j i • (A1ᴴ * cj t2 (∑ l, r2 l j • (A2ᴴ * Y l * C2)) * C1))
      = cj (xor t1 t2) (∑ l, (r2 * r1) l i • ((A2 * cj t2 A1)ᴴ * Y l * (C2 * cj t2 C1))) :=
  congrFun (rotateBack_comp t1 t2 A1 A2 C1 C2 r1 r2 hr1 Y) i

theorem pull_comp (h1 h2 : G) (X : BlockFn S) : pull S h1 (pull S h2 X) = pull S (h2 * h1) X := by
  funext R a b
  rw [pull_eq, pull_eq, pull_eq, rotateBack_comp _ _ _ _ _ _ _ _ (S.Rc_real h1)]
  -- the position: `h₂ • (h₁ • R + T(h₁)) + T(h₂)` against `(h₂ h₁) • R + T(h₂ h₁)`, by the cocycle rule for `T`
  rw [add_sub_assoc _ (S.T₁ (h2 * h1) a), S.T_cocycle, add_sub_assoc _ (S.T₁ h1 a), smul_add,
    add_sub_assoc _ (S.T₁ h2 (h1 • a)), add_assoc, mul_smul h2 h1 R, mul_smul h2 h1 a, mul_smul h2 h1 b]
  rw [S.tr_mul, S.Rc_mul, S.D₁_cocycle, S.D₂_cocycle, rotateBack_phase _ _ _ _ (S.ω_unit h2 h1), Bool.xor_comm]

theorem pull_add (h : G) (X Y : BlockFn S) : pull S h (X + Y) = pull S h X + pull S h Y := by
  funext R a b
  exact rotateBack_add _ _ _ _ _ _

theorem pull_zero (h : G) : pull S h (0 : BlockFn S) = 0 :=
  add_eq_left.1 ((pull_add S h 0 0).symm.trans (congrArg _ (add_zero 0)))

/-- the left action of the group on the space of real-space matrices: `g • X = pull g⁻¹ X` -/
instance : SMul G (BlockFn S) := ⟨fun g X => pull S g⁻¹ X⟩

theorem smul_def (g : G) (X : BlockFn S) : g • X = pull S g⁻¹ X := rfl

instance : DistribMulAction G (BlockFn S) where
  one_smul X := by rw [smul_def, inv_one, pull_one]
  mul_smul g h X := by rw [smul_def, smul_def, smul_def, mul_inv_rev, pull_comp]
  smul_zero g := by rw [smul_def, pull_zero]
  smul_add g X Y := by rw [smul_def, smul_def, smul_def, pull_add]

/-! ### rational scalars commute with the action (time reversal is antilinear over `K`, linear over `ℚ`) -/

variable [CharZero K]

noncomputable instance (S : BlockRep G ι A₁ A₂ n₁ n₂ c K) : Module ℚ (BlockFn S) :=
  inferInstanceAs (Module ℚ (ι → A₁ → A₂ → c → Matrix n₁ n₂ K))

theorem pull_rat_smul (h : G) (q : ℚ) (X : BlockFn S) : pull S h (q • X) = q • pull S h X := by
  funext R a b
  exact rotateBack_rat_smul _ _ _ _ q _

instance : SMulCommClass G ℚ (BlockFn S) := ⟨fun g q X => pull_rat_smul S g⁻¹ q X⟩

end pull

section entries

/-! `WB.C20.pullEntry` (Model, run by the correspondence check against the real `average_XX_block`) computes, for
  `Fin`-indexed orbitals and Cartesian components, the entries of `rotateBack`, hence of `pull`. -/

variable {K : Type} [Field K] [StarRing K]

/-- a `Fin`-indexed matrix as a function of two naturals (zero outside the block) -/
def ext2 {a b : Nat} (M : Matrix (Fin a) (Fin b) K) : Nat → Nat → K :=
  fun i j => if h : i < a ∧ j < b then M ⟨i, h.1⟩ ⟨j, h.2⟩ else 0

omit [StarRing K] in
theorem ext2_val {a b : Nat} (M : Matrix (Fin a) (Fin b) K) (i : Fin a) (j : Fin b) : ext2 M i.val j.val = M i j := by
  unfold ext2
  rw [dif_pos ⟨i.isLt, j.isLt⟩]

omit [StarRing K] in
theorem sumTo_fin (n : Nat) (f : Nat → K) : sumTo n f = ∑ j : Fin n, f j.val := by
  rw [Fin.sum_univ_eq_sum_range]
  unfold sumTo
  induction n with
  | zero => rfl
  | succ n ih => rw [List.range_succ, List.foldl_append, ih, Finset.sum_range_succ]; rfl

theorem rotateBack_apply {N1 N2 NC : Nat} (t : Bool) (r : Matrix (Fin NC) (Fin NC) K) (A : Matrix (Fin N1) (Fin N1) K)
    (C : Matrix (Fin N2) (Fin N2) K) (Y : Fin NC → Matrix (Fin N1) (Fin N2) K) (i : Fin NC) (p : Fin N1) (q : Fin N2) :
    rotateBack t r A C Y i p q =
      pullEntry star t N1 N2 NC (ext2 r) (ext2 A) (ext2 C)
        (fun j a s => if hj : j < NC then ext2 (Y ⟨j, hj⟩) a s else 0) i.val p.val q.val := by
  have inner : (∑ j, r j i • (Aᴴ * Y j * C)) p q = sumTo NC (fun j => ext2 r j i.val * sumTo N1 (fun a => sumTo N2
      (fun s => star (ext2 A a p.val) * (if hj : j < NC then ext2 (Y ⟨j, hj⟩) a s else 0) * ext2 C s q.val))) := by
    simp only [sumTo_fin, ext2_val, Fin.is_lt, dite_true, Matrix.sum_apply, Matrix.smul_apply, smul_eq_mul,
      Matrix.mul_apply, conjTranspose_apply, Finset.sum_mul]
    exact Finset.sum_congr rfl fun j _ => by rw [Finset.sum_comm]
  unfold rotateBack pullEntry
  cases t
  · exact inner
  · exact congrArg star inner

end entries

end WB.C20
