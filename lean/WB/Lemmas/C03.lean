/-
  C03 helper lemmas: re-indexing of the k-point sums, the `% 1` of in-range k-points, the folded FFT, and the image of
  a k-vector with and without the time-reversal sign.
-/
import WB.Model.C03
import WB.Lemmas.C06Sum
import Mathlib.Data.Rat.Floor
import Mathlib.Algebra.BigOperators.Group.Finset.Basic
import Mathlib.Algebra.BigOperators.GroupWithZero.Action
import Mathlib.Algebra.BigOperators.Ring.Finset
import Mathlib.Algebra.Module.Defs
import Mathlib.Algebra.Module.Rat
import Mathlib.Algebra.Order.Field.Rat
import Mathlib.Tactic.Ring
import Mathlib.Tactic.FieldSimp

namespace WB.C03
open WB.C06 Finset

/-! ### one direction of the index map -/

theorem mul_add_lt_mul (d f x m : Nat) (hx : x < d) (hm : m < f) : m * d + x < d * f := by
  have : (m + 1) * d ≤ f * d := Nat.mul_le_mul_right d hm
  rw [Nat.add_mul] at this
  rw [Nat.mul_comm d f]; omega

theorem frac_of_unit (q : Rat) (h0 : 0 ≤ q) (h1 : q < 1) : frac q = q := by
  show q - ((⌊q⌋ : Int) : Rat) = q
  rw [Int.floor_eq_zero_iff.mpr ⟨h0, h1⟩, Int.cast_zero, sub_zero]

/-! ### sums over ranges -/

variable {V : Type} [AddCommMonoid V]

theorem list_sum_range (g : Nat → V) : ∀ n : Nat, ((List.range n).map g).sum = ∑ i ∈ range n, g i
  | 0 => by simp
  | n + 1 => by
    rw [List.range_succ, List.map_append, List.sum_append, list_sum_range g n, Finset.sum_range_succ]
    simp

theorem sum_flatMap_map {α β : Type} (h : α → List β) (g : β → V) (l : List α) :
    ((l.flatMap h).map g).sum = (l.map fun a => ((h a).map g).sum).sum := by
  rw [List.map_flatMap, List.flatMap_def, List.sum_flatten, List.map_map]
  rfl

theorem sum_flatOrder (n : Idx) (g : Idx → V) :
    ((flatOrder n).map g).sum = ∑ x ∈ range n.1, ∑ y ∈ range n.2.1, ∑ z ∈ range n.2.2, g (x, y, z) := by
  unfold flatOrder
  rw [sum_flatMap_map, list_sum_range]
  apply Finset.sum_congr rfl
  intro x _
  rw [sum_flatMap_map, list_sum_range]
  apply Finset.sum_congr rfl
  intro y _
  rw [List.map_map, list_sum_range]
  rfl

/-- One direction: summing over the K-points `x < d` and the FFT points `i < f` of each is summing over the
    whole grid `a < d f`, with `a = i d + x`.  (Swap the sums; the last FFT point contributes the last block of `d` terms.) -/
theorem sum_factor (d : Nat) (G : Nat → V) (f : Nat) :
    ∑ x ∈ range d, ∑ i ∈ range f, G (i * d + x) = ∑ a ∈ range (d * f), G a := by
  rw [Finset.sum_comm]
  induction f with
  | zero => simp
  | succ f ih =>
    rw [Finset.sum_range_succ, ih, Nat.mul_succ, Finset.sum_range_add]
    congr 1
    apply Finset.sum_congr rfl
    intro x _
    rw [Nat.mul_comm f d]

theorem sum_comm_interleave3 (s1 s2 s3 t1 t2 t3 : Finset Nat) (A : Nat → Nat → Nat → Nat → Nat → Nat → V) :
    ∑ x ∈ s1, ∑ y ∈ s2, ∑ z ∈ s3, ∑ i ∈ t1, ∑ j ∈ t2, ∑ l ∈ t3, A x y z i j l =
    ∑ x ∈ s1, ∑ i ∈ t1, ∑ y ∈ s2, ∑ j ∈ t2, ∑ z ∈ s3, ∑ l ∈ t3, A x y z i j l := by
  apply Finset.sum_congr rfl
  intro x _
  have h1 : ∑ y ∈ s2, ∑ z ∈ s3, ∑ i ∈ t1, ∑ j ∈ t2, ∑ l ∈ t3, A x y z i j l =
      ∑ y ∈ s2, ∑ i ∈ t1, ∑ z ∈ s3, ∑ j ∈ t2, ∑ l ∈ t3, A x y z i j l :=
    Finset.sum_congr rfl fun y _ => Finset.sum_comm
  rw [h1, Finset.sum_comm]
  apply Finset.sum_congr rfl
  intro i _
  apply Finset.sum_congr rfl
  intro y _
  exact Finset.sum_comm

theorem sum_factor3 (d f : Idx) (H : Nat → Nat → Nat → V) :
    ∑ x ∈ range d.1, ∑ y ∈ range d.2.1, ∑ z ∈ range d.2.2, ∑ i ∈ range f.1, ∑ j ∈ range f.2.1, ∑ l ∈ range f.2.2,
        H (i * d.1 + x) (j * d.2.1 + y) (l * d.2.2 + z) =
    ∑ a ∈ range (d.1 * f.1), ∑ b ∈ range (d.2.1 * f.2.1), ∑ c ∈ range (d.2.2 * f.2.2), H a b c := by
  rw [sum_comm_interleave3]
  have hz : ∀ a b : Nat, ∑ z ∈ range d.2.2, ∑ l ∈ range f.2.2, H a b (l * d.2.2 + z) =
      ∑ c ∈ range (d.2.2 * f.2.2), H a b c := fun a b => sum_factor d.2.2 (fun c => H a b c) f.2.2
  have hy : ∀ a : Nat, ∑ y ∈ range d.2.1, ∑ j ∈ range f.2.1, ∑ c ∈ range (d.2.2 * f.2.2), H a (j * d.2.1 + y) c =
      ∑ b ∈ range (d.2.1 * f.2.1), ∑ c ∈ range (d.2.2 * f.2.2), H a b c :=
    fun a => sum_factor d.2.1 (fun b => ∑ c ∈ range (d.2.2 * f.2.2), H a b c) f.2.1
  simp only [hz, hy]
  exact sum_factor d.1 (fun a => ∑ b ∈ range (d.2.1 * f.2.1), ∑ c ∈ range (d.2.2 * f.2.2), H a b c) f.1

/-! ### the folded FFT -/

section fold
variable {K : Type} [CommSemiring K]

theorem sum_filter_partition (f : Nat) (hf : 0 < f) (Rs : List Int) (g : Int → Nat → K) :
    ((List.range f).map fun (c : Nat) => ((Rs.filter fun R => R % (f : Int) == (c : Int)).map fun R => g R c).sum).sum
      = (Rs.map fun R => g R (R % (f : Int)).toNat).sum := by
  induction Rs with
  | nil => simp
  | cons R Rs ih =>
    have hc : ((R % (f : Int)).toNat : Int) = R % (f : Int) := Int.toNat_of_nonneg (Int.emod_nonneg R (by omega))
    have hlt : (R % (f : Int)).toNat < f := by
      have := Int.emod_lt_of_pos R (show (0 : Int) < f by omega)
      omega
    -- the term of `R` appears exactly in the class `c = R % f`
    have key : ∀ c : Nat, ((((R :: Rs).filter fun R' => R' % (f : Int) == (c : Int)).map fun R' => g R' c).sum : K) =
        (if c = (R % (f : Int)).toNat then g R c else 0) +
          ((Rs.filter fun R' => R' % (f : Int) == (c : Int)).map fun R' => g R' c).sum := fun c => by
      rw [List.filter_cons]
      by_cases h : c = (R % (f : Int)).toNat
      · rw [if_pos (by rw [h, hc]; exact beq_self_eq_true _), List.map_cons, List.sum_cons, if_pos h]
      · rw [if_neg (fun heq => h (by have := eq_of_beq heq; omega)), if_neg h, zero_add]
    simp only [key]
    rw [List.map_cons, List.sum_cons, ← ih, list_sum_range, list_sum_range, Finset.sum_add_distrib,
      Finset.sum_ite_eq' (range f) _ fun c => g R c, if_pos (mem_range.2 hlt)]

end fold

/-! ### the weighted k-points of a K-list without symmetry -/

section main
variable [Module ℚ V]

/-- the k-point of K-point `p` and FFT point `i` as the code computes it -/
def kpointOf (div fft : Idx) (p i : Idx) : V3 :=
  ⟨frac ((i.1 : Rat) * (1 / fft.1) + ((p.1 : Rat) * (1 / div.1)) / fft.1),
   frac ((i.2.1 : Rat) * (1 / fft.2.1) + ((p.2.1 : Rat) * (1 / div.2.1)) / fft.2.1),
   frac ((i.2.2 : Rat) * (1 / fft.2.2) + ((p.2.2 : Rat) * (1 / div.2.2)) / fft.2.2)⟩

theorem wsum_gridKW (syms : List Sym) (div fft : Idx) (f : V3 → V) :
    wsum (gridKW (getKList syms div false) fft) f =
      ((1 / ((nprod div : Nat) : Rat)) / ((nprod fft : Nat) : Rat)) •
        ((flatOrder div).map fun p => ((flatOrder fft).map fun i => f (kpointOf div fft p i)).sum).sum := by
  rw [getKList_false]
  unfold wsum gridKW kpointsAll pointsFFT kpFullBZ gridK kpointOf nprod
  rw [sum_flatMap_map, List.map_map, List.smul_sum, List.map_map]
  congr 1
  apply List.map_congr_left
  intro p _
  simp only [Function.comp_def, List.map_map, List.smul_sum]

end main

/-! ### the time-reversal sign in the image of a reduced k-vector: `k ↦ iTR · iInv · (k M)` -/

/-- the rule WITHOUT the sign of time reversal (the operation is treated as if it did not contain TR) -/
def dropTR (s : Sym) : Sym := { s with tr := false }

def negV (v : V3) : V3 := ⟨-v.x, -v.y, -v.z⟩

theorem negV_negV (w : V3) : negV (negV w) = w := by simp [negV]

theorem dropTR_apply (s : Sym) (k : V3) :
    (dropTR s).apply k = if s.tr = true then negV (s.apply k) else s.apply k := by
  obtain ⟨m11, m12, m13, m21, m22, m23, m31, m32, m33, inv, tr⟩ := s
  cases tr
  · rfl
  · cases inv <;>
      simp only [dropTR, Sym.apply, Sym.sign, negV, if_true, Bool.false_eq_true, if_false, V3.mk.injEq] <;>
      refine ⟨?_, ?_, ?_⟩ <;> ring

theorem sign_flipInv (s : Sym) : ({ s with inv := !s.inv } : Sym).sign = -s.sign := by
  cases h : s.inv <;> simp [Sym.sign, h]

theorem apply_flipInv (s : Sym) (k : V3) : ({ s with inv := !s.inv } : Sym).apply k = negV (s.apply k) := by
  simp only [Sym.apply, negV, sign_flipInv, mul_neg]

end WB.C03
