/-
  C21 helper lemmas, d shell.  `rotD r3 S j i` is a linear read-off (`readD`) of the monomial coefficients of the
  substituted form `substQuad (dQuad r3 i) S`; what is proved here holds for every quadratic form `q` in that place:
  `substQuad q S` is the matrix `Sᵀ q S`, so substitution commutes with evaluation, keeps the trace for orthogonal `S`
  and has substitution by `Sᵀ` as adjoint; `q = Σ_j readD(q)_j · d_j + tr q · |v|²/3` as functions.
  Orthogonality of the d matrix comes from that adjointness (`rotD_transpose`), no kernel is needed.
  The table `dQuad` is read in `trace_dQuad` and `readD_eq_pairQ` only.
-/
import WB.Lemmas.C21
import Mathlib.Tactic.NormNum
import Mathlib.Tactic.LinearCombination
import Mathlib.Tactic.FinCases
import Mathlib.Algebra.BigOperators.Fin

namespace WB.C21
open Matrix

variable {K : Type} [Field K]

theorem substQuad_eq (q : Quad K) (S : M3 K) : of (substQuad q S) = (of S)ᵀ * of q * of S := by
  ext b d
  simp only [substQuad, sum3, mul_apply, Fin.sum_univ_three, transpose_apply, of_apply]; ring

theorem evalQuad_eq (q : Quad K) (v : V3 K) : evalQuad q v = v ⬝ᵥ (of q *ᵥ v) := by
  simp only [evalQuad, sum3, dotProduct, mulVec, Fin.sum_univ_three, of_apply]; ring

theorem evalQuad_substQuad (q : Quad K) (S : M3 K) (v : V3 K) :
    evalQuad (substQuad q S) v = evalQuad q (mulVec3 S v) := by
  rw [evalQuad_eq, evalQuad_eq, substQuad_eq, mulVec3_eq, Matrix.mul_assoc, ← mulVec_mulVec, ← mulVec_mulVec,
    dotProduct_mulVec, vecMul_transpose]

theorem substQuad_neg (q : Quad K) (S : M3 K) : substQuad q (fun a b => -S a b) = substQuad q S := by
  funext b d; simp only [substQuad, mul_neg, neg_mul, neg_neg]

theorem trace_substQuad {S : M3 K} (hS : Orth3 S) (q : Quad K) :
    sum3 (fun b => substQuad q S b b) = sum3 (fun a => q a a) := by
  have e : ∀ A : Quad K, sum3 (fun b => A b b) = trace (of A) := fun A => by
    simp only [sum3, trace, diag, Fin.sum_univ_three, of_apply]
  rw [e, e, substQuad_eq, Matrix.mul_assoc, trace_mul_comm, Matrix.mul_assoc, (Orth3.iff_matrix S).1 hS, Matrix.mul_one]

def sum5 {K} [Add K] (f : Fin 5 → K) : K := f 0 + f 1 + f 2 + f 3 + f 4

theorem sum5_eq_sum (f : Fin 5 → K) : sum5 f = ∑ j, f j := (Fin.sum_univ_five f).symm

/-- the read-off of `rot_orb_basis('d')`: coordinates in the d basis from the monomial coefficients `c` -/
def readD (r3 : K) (c : Fin 3 → Fin 3 → K) (j : Fin 5) : K :=
  match j.val with
  | 0 => (2 * c 2 2 - c 0 0 - c 1 1) / r3
  | 1 => c 0 2
  | 2 => c 1 2
  | 3 => c 0 0 - c 1 1
  | _ => c 0 1

theorem rotD_eq (r3 : K) (S : M3 K) (j i : Fin 5) :
    rotD r3 S j i = readD r3 (monoCoeff (substQuad (dQuad r3 i) S)) j := rfl

theorem trace_dQuad (r3 : K) (i : Fin 5) : sum3 (fun a => dQuad r3 i a a) = 0 := by
  fin_cases i <;> simp only [dQuad, sum3, Fin.coe_ofNat_eq_mod, Nat.reduceMod] <;> ring

/-- twice the Frobenius product of the symmetrised arrays -/
def pairQ (p q : Quad K) : K := sum3 (fun a => sum3 (fun c => (p a c + p c a) * q a c))

theorem pairQ_comm (p q : Quad K) : pairQ p q = pairQ q p := by simp only [pairQ, sum3]; ring

theorem pairQ_eq_trace (p q : Quad K) : pairQ p q = trace ((of p + (of p)ᵀ) * (of q)ᵀ) := by
  simp only [pairQ, sum3, trace, diag, mul_apply, Fin.sum_univ_three, Matrix.add_apply, transpose_apply, of_apply]

/-- `tr(Sᵀ(P+Pᵀ)S Qᵀ) = tr((P+Pᵀ) S Qᵀ Sᵀ)` -/
theorem pairQ_substQuad (p q : Quad K) (S : M3 K) :
    pairQ (substQuad p S) q = pairQ p (substQuad q (transpose3 S)) := by
  have h1 : of (substQuad p S) + (of (substQuad p S))ᵀ = (of S)ᵀ * (of p + (of p)ᵀ) * of S := by
    simp only [substQuad_eq, transpose_mul, transpose_transpose, Matrix.mul_add, Matrix.add_mul, Matrix.mul_assoc]
  have h2 : (of (substQuad q (transpose3 S)))ᵀ = of S * (of q)ᵀ * (of S)ᵀ := by
    rw [substQuad_eq]
    change ((of S)ᵀᵀ * of q * (of S)ᵀ)ᵀ = _
    simp only [transpose_mul, transpose_transpose, Matrix.mul_assoc]
  rw [pairQ_eq_trace, pairQ_eq_trace, h1, h2, Matrix.mul_assoc, Matrix.mul_assoc, trace_mul_comm]
  simp only [Matrix.mul_assoc]

variable [CharZero K] {r3 : K}

theorem inv_r3 (hr : r3 * r3 = 3) : 3 * r3⁻¹ * r3⁻¹ = 1 := by
  rw [mul_assoc, ← mul_inv, hr, mul_inv_cancel₀ (by norm_num)]

theorem readD_eq_pairQ (q : Quad K) (j : Fin 5) : readD r3 (monoCoeff q) j = pairQ q (dQuad r3 j) := by
  fin_cases j <;>
    simp only [readD, monoCoeff, pairQ, dQuad, sum3, Fin.coe_ofNat_eq_mod, Nat.reduceMod, Fin.isValue, Fin.reduceEq,
      ↓reduceIte] <;> ring

theorem rotD_transpose (r3 : K) (S : M3 K) (j i : Fin 5) : rotD r3 (transpose3 S) j i = rotD r3 S i j := by
  rw [rotD_eq, rotD_eq, readD_eq_pairQ, readD_eq_pairQ, pairQ_substQuad, pairQ_comm]; rfl

theorem sum5_dFun (c : Fin 5 → K) (v : V3 K) :
    sum5 (fun j => dFun r3 j v * c j)
      = (2 * v 2 * v 2 - v 0 * v 0 - v 1 * v 1) / (2 * r3) * c 0 + v 0 * v 2 * c 1 + v 1 * v 2 * c 2
        + (v 0 * v 0 - v 1 * v 1) / 2 * c 3 + v 0 * v 1 * c 4 := by
  -- `d_j(v)` is the read-off of the form `v vᵀ / 2`, so the table is not read again
  have e : ∀ j, dFun r3 j v = readD r3 (monoCoeff fun a c => v a * v c / 2) j := fun j => by
    rw [readD_eq_pairQ]; simp only [dFun, evalQuad, pairQ, sum3]; ring
  simp only [sum5, e, readD, monoCoeff, Fin.coe_ofNat_eq_mod, Nat.reduceMod, Fin.isValue, Fin.reduceEq, ↓reduceIte]
  ring

theorem evalQuad_decomp (hr : r3 * r3 = 3) (q : Quad K) (v : V3 K) :
    evalQuad q v
      = sum5 (fun j => dFun r3 j v * readD r3 (monoCoeff q) j) + sum3 (fun a => q a a) * dotV v v / 3 := by
  have hu := inv_r3 hr
  rw [sum5_dFun]
  simp only [readD, monoCoeff, evalQuad, sum3, dotV, Fin.coe_ofNat_eq_mod, Nat.reduceMod, Fin.isValue, Fin.reduceEq,
    ↓reduceIte, div_eq_mul_inv, mul_inv]
  generalize r3⁻¹ = u at hu
  linear_combination
    (-(2 * v 2 * v 2 - v 0 * v 0 - v 1 * v 1) * (2 * q 2 2 - q 0 0 - q 1 1) / 6) * hu

theorem dFun_indep (hr : r3 * r3 = 3) (c : Fin 5 → K) (h : ∀ v : V3 K, ∑ j, dFun r3 j v * c j = 0) :
    ∀ j, c j = 0 := by
  have hu := inv_r3 hr
  have e (x y z : K) := h ![x, y, z]
  simp only [← sum5_eq_sum, sum5_dFun, Matrix.cons_val_zero, Matrix.cons_val_one, Matrix.cons_val_two, Matrix.head_cons,
    Matrix.tail_cons, div_eq_mul_inv, mul_inv] at e
  generalize r3⁻¹ = u at hu e
  have c0 : c 0 = 0 := by linear_combination 3 * u * e 0 0 1 - c 0 * hu
  have c3 : c 3 = 0 := by linear_combination 2 * e 1 0 0 + u * c0
  have c1 : c 1 = 0 := by linear_combination e 1 0 1 - e 1 0 0 - u * c0
  have c2 : c 2 = 0 := by linear_combination e 0 1 1 - e 0 1 0 - u * c0
  have c4 : c 4 = 0 := by linear_combination e 1 1 0 + u * c0
  intro j; fin_cases j <;> assumption

end WB.C21
