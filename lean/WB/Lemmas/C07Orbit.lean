/-
  C07 helper lemmas: orbit–stabiliser for a list-group acting on a type with decidable equality, and the
  resulting sum rules.
-/
import WB.Lemmas.C09Group
import Mathlib.Algebra.BigOperators.Group.Finset.Basic
import Mathlib.Algebra.BigOperators.Group.List.Basic
import Mathlib.Algebra.BigOperators.GroupWithZero.Action
import Mathlib.Data.List.Dedup
import Mathlib.Data.Finset.Dedup
import Mathlib.Algebra.Module.Defs
import Mathlib.Algebra.Module.NatInt
import Mathlib.Algebra.Field.Basic
import Mathlib.Algebra.CharZero.Defs
import Mathlib.Tactic.Ring

namespace WB.C07
open WB.C09

section Orbit
variable {G X : Type} [DecidableEq X]

/-- a list-group acting on `X`: compatible with the product and every member acts injectively -/
structure ListAction (mul : G → G → G) (L : List G) (act : G → X → X) : Prop where
  grp : ListGroup mul L
  act_mul : ∀ g ∈ L, ∀ h ∈ L, ∀ x, act (mul g h) x = act g (act h x)
  act_inj : ∀ g ∈ L, ∀ x y, act g x = act g y → x = y

/-- the orbit as the code builds it: all images, duplicates removed (`star`) -/
def orbit (L : List G) (act : G → X → X) (r : X) : List X := (L.map fun g => act g r).dedup

/-- the members that fix `r` -/
def stab (L : List G) (act : G → X → X) (r : X) : List G := L.filter fun s => decide (act s r = r)

variable {mul : G → G → G} {L : List G} {act : G → X → X}

/-- All fibres of `g ↦ g·r` have the size of the stabiliser: `s ↦ g0·s` permutes `L`, and `g0·s` lies in the fibre
    of `g0` iff `s` fixes `r`. -/
theorem fibre_length (hA : ListAction mul L act) (r : X) {g0 : G} (hg0 : g0 ∈ L) :
    (L.filter fun g => decide (act g r = act g0 r)).length = (stab L act r).length := by
  have hp := (hA.grp.perm_map_mul hg0).filter (fun g => decide (act g r = act g0 r))
  have h1 := hp.length_eq
  rw [List.filter_map, List.length_map] at h1
  rw [← h1]
  congr 1
  apply List.filter_congr
  intro s hs
  simp only [Function.comp, decide_eq_decide]
  rw [hA.act_mul g0 hg0 s hs r]
  constructor
  · intro h; exact hA.act_inj g0 hg0 _ _ h
  · intro h; rw [h]

theorem count_image (hA : ListAction mul L act) (r : X) {k : X} (hk : k ∈ L.map fun g => act g r) :
    (L.map fun g => act g r).count k = (stab L act r).length := by
  obtain ⟨g0, hg0, rfl⟩ := List.mem_map.1 hk
  rw [List.count_eq_countP, List.countP_map, List.countP_eq_length_filter, ← fibre_length hA r hg0]
  congr 1

theorem sum_images {V : Type} [AddCommMonoid V] (hA : ListAction mul L act) (r : X) (F : X → V) :
    (L.map fun g => F (act g r)).sum = (stab L act r).length • ((orbit L act r).map F).sum := by
  rw [show (L.map fun g => F (act g r)) = (L.map fun g => act g r).map F from List.map_map.symm,
    Finset.sum_list_map_count,
    Finset.sum_congr rfl fun m hm => by rw [count_image hA r (List.mem_toFinset.1 hm)], Finset.sum_nsmul]
  congr 1

theorem orbit_stabiliser (hA : ListAction mul L act) (r : X) :
    (stab L act r).length * (orbit L act r).length = L.length := by
  have := sum_images hA r fun _ => 1
  simp only [List.map_const', List.sum_replicate, smul_eq_mul, mul_one] at this
  exact this.symm

end Orbit

section Sums
variable {G X V K : Type} [DecidableEq X] [Field K] [CharZero K] [AddCommGroup V] [Module K V]
variable {mul : G → G → G} {L : List G} {act : G → X → X}

theorem sum_orbit_eq_smul_sum_images (hA : ListAction mul L act) (hL : L ≠ []) (f : X → V) (r : X) :
    ((orbit L act r).map f).sum
      = (((orbit L act r).length : K) * (L.length : K)⁻¹) • (L.map fun g => f (act g r)).sum := by
  have hl : (L.length : K) ≠ 0 := Nat.cast_ne_zero.2 fun h => hL (List.length_eq_zero_iff.mp h)
  rw [sum_images hA r f, ← Nat.cast_smul_eq_nsmul K, smul_smul]
  rw [← orbit_stabiliser hA r, Nat.cast_mul] at hl ⊢
  rw [mul_inv_rev, mul_assoc, mul_assoc, inv_mul_cancel₀ (left_ne_zero_of_mul hl), mul_one,
    mul_inv_cancel₀ (right_ne_zero_of_mul hl), one_smul]

theorem sum_map_flatMap {α β : Type} (l : List α) (g : α → List β) (f : β → V) :
    ((l.flatMap g).map f).sum = (l.map fun a => ((g a).map f).sum).sum := by
  rw [List.map_flatMap, List.flatMap_def, List.sum_flatten, List.map_map]
  rfl

/-- The weighted orbit sum (T2 of Props/C07) for any family of points `pt a` with weights `w a = |orbit (pt a)| / N` whose orbits partition the grid:
    the weighted sum of the group averages is `N⁻¹` times the plain sum over the grid, for every equivariant `f`. -/
theorem weighted_orbit_sum (hA : ListAction mul L act) (hL : L ≠ []) (T : G → V → V) (f : X → V)
    (hequiv : ∀ g ∈ L, ∀ k, f (act g k) = T g (f k)) {α : Type} (pts : List α) (pt : α → X) (w : α → K) (N : K)
    (hw : ∀ a ∈ pts, w a = ((orbit L act (pt a)).length : K) / N)
    (grid : List X) (hpart : ((pts.map pt).flatMap (orbit L act)).Perm grid) :
    (pts.map fun a => w a • ((L.length : K)⁻¹ • (L.map fun g => T g (f (pt a))).sum)).sum
      = N⁻¹ • (grid.map f).sum := by
  have term : ∀ a ∈ pts, w a • ((L.length : K)⁻¹ • (L.map fun g => T g (f (pt a))).sum)
      = N⁻¹ • ((orbit L act (pt a)).map f).sum := fun a ha => by
    rw [hw a ha, sum_orbit_eq_smul_sum_images (K := K) hA hL f, List.map_congr_left fun g hg => hequiv g hg (pt a),
      smul_smul, smul_smul]
    congr 1; ring
  rw [List.map_congr_left term, ← (hpart.map f).sum_eq, sum_map_flatMap, List.map_map,
    List.smul_sum, List.map_map]
  rfl

end Sums

end WB.C07
