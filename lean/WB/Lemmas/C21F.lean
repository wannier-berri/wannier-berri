/-
  C21 helper lemmas: the f-shell rotation matrix in the rescaled integer basis g (f_i = g_i / n_i).
  `rotG S j i` is a linear read-off (`readG`) of the coefficient array of the substituted cubic.  Every cubic is
  `Σ_j readG(c)_j · g_j` plus a multiple of its Laplacian (`evalCoef_decomp`); an orthogonal substitution maps the
  Laplacian of `q` to that of `q ∘ S` (`lapl_substCub`), and the `g_i` are harmonic: this is the expansion `gFun_expand`.
-/
import WB.Lemmas.C21
import Mathlib.Tactic.FinCases
import Mathlib.Algebra.BigOperators.Fin

namespace WB.C21

variable {K : Type} [Field K]

def sum7 {K} [Add K] (f : Fin 7 → K) : K := f 0 + f 1 + f 2 + f 3 + f 4 + f 5 + f 6

theorem sum7_eq_sum (f : Fin 7 → K) : sum7 f = ∑ j, f j := (Fin.sum_univ_seven f).symm

theorem gFun_eq (i : Fin 7) (v : V3 K) : gFun i v = match i.val with
    | 0 => 2 * v 2 * v 2 * v 2 - 3 * v 2 * v 0 * v 0 - 3 * v 2 * v 1 * v 1
    | 1 => 4 * v 0 * v 2 * v 2 - v 0 * v 0 * v 0 - v 0 * v 1 * v 1
    | 2 => 4 * v 1 * v 2 * v 2 - v 1 * v 0 * v 0 - v 1 * v 1 * v 1
    | 3 => v 2 * v 0 * v 0 - v 2 * v 1 * v 1
    | 4 => v 0 * v 1 * v 2
    | 5 => v 0 * v 0 * v 0 - 3 * v 0 * v 1 * v 1
    | _ => 3 * v 1 * v 0 * v 0 - v 1 * v 1 * v 1 := by
  fin_cases i <;> simp only [gFun, gCub, evalCub, List.foldr] <;> ring

theorem rotG_0 (S : M3 K) (i : Fin 7) : rotG S 0 i = coefZZZ (substCub (gCub i) S) / 2 := rfl
theorem rotG_1 (S : M3 K) (i : Fin 7) : rotG S 1 i = coefXZZ (substCub (gCub i) S) / 4 := rfl
theorem rotG_2 (S : M3 K) (i : Fin 7) : rotG S 2 i = coefYZZ (substCub (gCub i) S) / 4 := rfl
theorem rotG_3 (S : M3 K) (i : Fin 7) :
    rotG S 3 i = coefZXX (substCub (gCub i) S) + 3 * coefZZZ (substCub (gCub i) S) / 2 := rfl
theorem rotG_4 (S : M3 K) (i : Fin 7) : rotG S 4 i = coefXYZ (substCub (gCub i) S) := rfl
theorem rotG_5 (S : M3 K) (i : Fin 7) :
    rotG S 5 i = coefXXX (substCub (gCub i) S) + coefXZZ (substCub (gCub i) S) / 4 := rfl
theorem rotG_6 (S : M3 K) (i : Fin 7) :
    rotG S 6 i = -(coefYYY (substCub (gCub i) S)) - coefYZZ (substCub (gCub i) S) / 4 := rfl

/-- the read-off of `rot_orb_basis('f')` in the integer basis: coordinates from the coefficient array `c` -/
def readG (c : Fin 3 → Fin 3 → Fin 3 → K) (j : Fin 7) : K :=
  match j.val with
  | 0 => coefZZZ c / 2
  | 1 => coefXZZ c / 4
  | 2 => coefYZZ c / 4
  | 3 => coefZXX c + 3 * coefZZZ c / 2
  | 4 => coefXYZ c
  | 5 => coefXXX c + coefXZZ c / 4
  | _ => -(coefYYY c) - coefYZZ c / 4

theorem rotG_eq (S : M3 K) (j i : Fin 7) : rotG S j i = readG (substCub (gCub i) S) j := rfl

def evalCoef (c : Fin 3 → Fin 3 → Fin 3 → K) (v : V3 K) : K :=
  sum3 fun b => sum3 fun d => sum3 fun f => c b d f * v b * v d * v f

/-- half the gradient of the Laplacian of the cubic with coefficient array `c` -/
def lapl (c : Fin 3 → Fin 3 → Fin 3 → K) (f : Fin 3) : K := sum3 fun a => c a a f + c a f a + c f a a

theorem evalCub_cons (m : K × Fin 3 × Fin 3 × Fin 3) (q : Cub K) (v : V3 K) :
    evalCub (m :: q) v = m.1 * v m.2.1 * v m.2.2.1 * v m.2.2.2 + evalCub q v := rfl

theorem substCub_cons (m : K × Fin 3 × Fin 3 × Fin 3) (q : Cub K) (S : M3 K) (b d f : Fin 3) :
    substCub (m :: q) S b d f = m.1 * S m.2.1 b * S m.2.2.1 d * S m.2.2.2 f + substCub q S b d f := rfl

theorem evalCub_mulVec3 (S : M3 K) (v : V3 K) : ∀ q : Cub K, evalCub q (mulVec3 S v) = evalCoef (substCub q S) v
  | [] => by simp [evalCub, substCub, evalCoef, sum3]
  | m :: q => by
    rw [evalCub_cons, evalCub_mulVec3 S v q]
    simp only [evalCoef, substCub_cons, mulVec3, sum3]; ring

/-- the Laplacian of `q ∘ S` is that of `q`, substituted: a monomial `k·v_x v_y v_z` gives
    `k (δ_xy S_z + δ_xz S_y + δ_yz S_x)` -/
theorem lapl_substCub {S : M3 K} (hS : Orth3 S) (f : Fin 3) : ∀ q : Cub K,
    lapl (substCub q S) f = q.foldr (fun m acc => m.1 * ((if m.2.1 = m.2.2.1 then S m.2.2.2 f else 0)
      + (if m.2.1 = m.2.2.2 then S m.2.2.1 f else 0) + (if m.2.2.1 = m.2.2.2 then S m.2.1 f else 0)) + acc) 0
  | [] => by simp [lapl, substCub, sum3]
  | m :: q => by
    have e : lapl (substCub (m :: q) S) f = m.1 * (sum3 (fun a => S m.2.1 a * S m.2.2.1 a) * S m.2.2.2 f
        + sum3 (fun a => S m.2.1 a * S m.2.2.2 a) * S m.2.2.1 f + sum3 (fun a => S m.2.2.1 a * S m.2.2.2 a) * S m.2.1 f)
        + lapl (substCub q S) f := by
      simp only [lapl, substCub_cons, sum3]; ring
    rw [e, lapl_substCub hS f q, hS, hS, hS]
    simp only [List.foldr_cons, ite_mul, one_mul, zero_mul]

/-- the seven cubics are harmonic -/
theorem lapl_substCub_gCub {S : M3 K} (hS : Orth3 S) (i : Fin 7) (f : Fin 3) : lapl (substCub (gCub i) S) f = 0 := by
  rw [lapl_substCub hS]
  fin_cases i <;>
    simp only [gCub, List.foldr_cons, List.foldr_nil, Fin.isValue, Fin.reduceEq, ↓reduceIte] <;> ring

variable [CharZero K]

/-- `x y², x² y, y² z` are the monomials the code does not read (`OC` has the other seven): the seven read-offs fix the
    harmonic part, the Laplacian the rest -/
theorem evalCoef_decomp (c : Fin 3 → Fin 3 → Fin 3 → K) (v : V3 K) :
    evalCoef c v = sum7 (fun j => gFun j v * readG c j)
      + lapl c 0 * (v 0 * v 1 * v 1) + lapl c 1 * (v 0 * v 0 * v 1) + lapl c 2 * (v 1 * v 1 * v 2) := by
  simp only [evalCoef, sum7, gFun_eq, readG, lapl, coefZZZ, coefXZZ, coefYZZ, coefZXX, coefXYZ, coefXXX, coefYYY, sum3,
    Fin.coe_ofNat_eq_mod, Nat.reduceMod]
  ring

theorem gFun_expand (S : M3 K) (hS : Orth3 S) (i : Fin 7) (v : V3 K) :
    gFun i (mulVec3 S v) = sum7 (fun j => gFun j v * rotG S j i) := by
  rw [gFun, evalCub_mulVec3, evalCoef_decomp]
  simp only [lapl_substCub_gCub hS, zero_mul, add_zero, rotG_eq]

end WB.C21
