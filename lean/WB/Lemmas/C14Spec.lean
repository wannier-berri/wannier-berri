/-
  C14 — the exact linear-tetrahedron volume fraction (truncated-power / Hermite–Genocchi form) and what is needed to
  show that every branch of `weights_tetra` computes it (and its derivatives) on strictly increasing corners.

  On increasing corners the spec is itself a `piece`: between two corners it is the sum `specHead j m` of the terms that
  are switched on.  The code's cubics are compared with these sums through their Taylor coefficients at 0.
-/
import WB.Model.C14
import Mathlib.Tactic.FieldSimp
import Mathlib.Tactic.Ring
import Mathlib.Tactic.NormNum
import Mathlib.Algebra.Order.Field.Basic

namespace WB.C14
set_option linter.unusedSectionVars false
variable {K : Type} [Field K] [LinearOrder K] [IsStrictOrderedRing K]

theorem piece_elim {motive : K → Prop} (e1 e2 e3 e4 x : K) {a b p3 p2 p1 : K}
    (ha : e4 ≤ x → motive a) (hb : x < e1 → motive b) (h3 : e3 ≤ x → x < e4 → motive p3)
    (h2 : e2 ≤ x → x < e3 → motive p2) (h1 : e1 ≤ x → x < e2 → motive p1) :
    motive (piece e1 e2 e3 e4 x a b p3 p2 p1) := by
  unfold piece
  split_ifs with c4 c1 c3 c2
  · exact ha c4
  · exact hb c1
  · exact h3 c3 (not_le.mp c4)
  · exact h2 c2 (not_le.mp c3)
  · exact h1 (not_lt.mp c1) (not_le.mp c2)

/-- truncated power `(x - a)_+^n`, right-continuous convention (`0^0 = 1` at `x = a`) -/
def tp (n : Nat) (a x : K) : K := if a ≤ x then (x - a) ^ n else 0

theorem tp_of_le {n : Nat} {a x : K} (h : a ≤ x) : tp n a x = (x - a) ^ n := if_pos h

theorem tp_of_lt {n : Nat} {a x : K} (h : x < a) : tp n a x = 0 := if_neg (not_le.mpr h)

/-- a truncated power of positive degree also vanishes AT the knot -/
theorem tp_of_ge {n : Nat} (hn : 0 < n) {a x : K} (h : x ≤ a) : tp n a x = 0 := by
  rcases h.lt_or_eq with h | rfl
  · exact tp_of_lt h
  · rw [tp_of_le le_rfl, sub_self, zero_pow hn.ne']

/-- falling factorial `3·2·…·(3-n+1)` for `n ≤ 3` -/
def ff : Nat → K
  | 0 => 1
  | 1 => 3
  | _ => 6

theorem ff_nonneg (n : Nat) : (0 : K) ≤ ff n := by
  unfold ff; split <;> norm_num

/-- SPEC.  `spec 0 e₁ e₂ e₃ e₄ ε = Σ_{eᵢ ≤ ε} (ε-eᵢ)³ / Π_{j≠i}(eⱼ-eᵢ)`: the fraction of the volume of a tetrahedron
    with corner energies `e₁..e₄` (linear interpolation) lying below `ε`; `spec n` is its n-th derivative
    (term-wise derivative of the truncated powers).  Manifestly symmetric in the corners (`spec_symmetric`). -/
def spec (n : Nat) (e1 e2 e3 e4 x : K) : K :=
  ff n * ( tp (3 - n) e1 x / ((e2 - e1) * (e3 - e1) * (e4 - e1))
         + tp (3 - n) e2 x / ((e1 - e2) * (e3 - e2) * (e4 - e2))
         + tp (3 - n) e3 x / ((e1 - e3) * (e2 - e3) * (e4 - e3))
         + tp (3 - n) e4 x / ((e1 - e4) * (e2 - e4) * (e3 - e4)))

/-- the spec with all differences written positively (`eⱼ - eᵢ`, `i < j`): six distinct factors instead of twelve,
    which keeps `field_simp; ring` small -/
theorem spec_pos (n : Nat) (e1 e2 e3 e4 x : K) : spec n e1 e2 e3 e4 x =
    ff n * ( tp (3 - n) e1 x / ((e2 - e1) * (e3 - e1) * (e4 - e1))
           - tp (3 - n) e2 x / ((e2 - e1) * (e3 - e2) * (e4 - e2))
           + tp (3 - n) e3 x / ((e3 - e1) * (e3 - e2) * (e4 - e3))
           - tp (3 - n) e4 x / ((e4 - e1) * (e4 - e2) * (e4 - e3))) := by
  unfold spec
  rw [← neg_sub e2 e1, ← neg_sub e3 e1, ← neg_sub e4 e1, ← neg_sub e3 e2, ← neg_sub e4 e2, ← neg_sub e4 e3]
  simp only [neg_mul, mul_neg, neg_neg, div_neg]
  ring

structure Incr (e1 e2 e3 e4 : K) : Prop where
  h12 : e1 < e2
  h23 : e2 < e3
  h34 : e3 < e4

theorem Incr.pos {e1 e2 e3 e4 : K} (h : Incr e1 e2 e3 e4) :
    0 < e2 - e1 ∧ 0 < e3 - e1 ∧ 0 < e4 - e1 ∧ 0 < e3 - e2 ∧ 0 < e4 - e2 ∧ 0 < e4 - e3 :=
  ⟨sub_pos.mpr h.h12, sub_pos.mpr (h.h12.trans h.h23), sub_pos.mpr (h.h12.trans (h.h23.trans h.h34)),
    sub_pos.mpr h.h23, sub_pos.mpr (h.h23.trans h.h34), sub_pos.mpr h.h34⟩

theorem Incr.ne {e1 e2 e3 e4 : K} (h : Incr e1 e2 e3 e4) :
    e2 - e1 ≠ 0 ∧ e3 - e1 ≠ 0 ∧ e4 - e1 ≠ 0 ∧ e3 - e2 ≠ 0 ∧ e4 - e2 ≠ 0 ∧ e4 - e3 ≠ 0 :=
  ⟨h.pos.1.ne', h.pos.2.1.ne', h.pos.2.2.1.ne', h.pos.2.2.2.1.ne', h.pos.2.2.2.2.1.ne', h.pos.2.2.2.2.2.ne'⟩

/-- the first `j` terms of the spec, not truncated, differences written positively -/
def specHead (j m : Nat) (e1 e2 e3 e4 x : K) : K :=
  1 / ((e2 - e1) * (e3 - e1) * (e4 - e1)) * (x - e1) ^ m
    + (if 2 ≤ j then -(1 / ((e2 - e1) * (e3 - e2) * (e4 - e2))) else 0) * (x - e2) ^ m
    + (if 3 ≤ j then 1 / ((e3 - e1) * (e3 - e2) * (e4 - e3)) else 0) * (x - e3) ^ m
    + (if 4 ≤ j then -(1 / ((e4 - e1) * (e4 - e2) * (e4 - e3))) else 0) * (x - e4) ^ m

/-- a cubic and its three derivatives in Horner form, with the Taylor coefficients at 0 of `specHead j 3` -/
theorem specHead_horner (j : Nat) (e1 e2 e3 e4 x : K) :
    specHead j 3 e1 e2 e3 e4 0 + x * (3 * specHead j 2 e1 e2 e3 e4 0 + x * (3 * specHead j 1 e1 e2 e3 e4 0
      + specHead j 0 e1 e2 e3 e4 0 * x)) = specHead j 3 e1 e2 e3 e4 x ∧
    3 * specHead j 2 e1 e2 e3 e4 0 + x * (2 * (3 * specHead j 1 e1 e2 e3 e4 0) + 3 * specHead j 0 e1 e2 e3 e4 0 * x)
      = 3 * specHead j 2 e1 e2 e3 e4 x ∧
    2 * (3 * specHead j 1 e1 e2 e3 e4 0) + 6 * specHead j 0 e1 e2 e3 e4 0 * x = 6 * specHead j 1 e1 e2 e3 e4 x ∧
    6 * specHead j 0 e1 e2 e3 e4 0 = 6 * specHead j 0 e1 e2 e3 e4 x := by
  unfold specHead
  refine ⟨?_, ?_, ?_, ?_⟩ <;> ring

/-- Lagrange: `Σᵢ (x - eᵢ)^m / Π_{j≠i}(eⱼ - eᵢ)` (a third divided difference of `t ↦ (x - t)^m`) is 0 for `m < 3` and
    1 for `m = 3` -/
theorem specHead_four {e1 e2 e3 e4 : K} (h : Incr e1 e2 e3 e4) {m : Nat} (hm : m ≤ 3) (x : K) :
    specHead 4 m e1 e2 e3 e4 x = if m = 3 then 1 else 0 := by
  obtain ⟨n12, n13, n14, n23, n24, n34⟩ := h.ne
  obtain rfl | rfl | rfl | rfl : m = 0 ∨ m = 1 ∨ m = 2 ∨ m = 3 := by omega
  all_goals
    simp only [specHead, Nat.reduceLeDiff, if_true, Nat.reduceEqDiff, if_false, le_refl]
    field_simp
    ring

theorem specHead_three {e1 e2 e3 e4 : K} (h : Incr e1 e2 e3 e4) {m : Nat} (hm : m ≤ 3) (x : K) :
    specHead 3 m e1 e2 e3 e4 x = (if m = 3 then 1 else 0) + (x - e4) ^ m / ((e4 - e1) * (e4 - e2) * (e4 - e3)) := by
  rw [← specHead_four h hm x]
  simp only [specHead, Nat.reduceLeDiff, if_true, if_false, le_refl]
  ring

theorem spec_cases {e1 e2 e3 e4 : K} (h : Incr e1 e2 e3 e4) {n : Nat} (hn : n ≤ 3) (x : K) :
    spec n e1 e2 e3 e4 x = piece e1 e2 e3 e4 x (if n = 0 then 1 else 0) 0 (ff n * specHead 3 (3 - n) e1 e2 e3 e4 x)
      (ff n * specHead 2 (3 - n) e1 e2 e3 e4 x) (ff n * specHead 1 (3 - n) e1 e2 e3 e4 x) := by
  have l12 := h.h12.le; have l23 := h.h23.le; have l34 := h.h34.le
  rw [spec_pos]
  refine piece_elim e1 e2 e3 e4 x (fun c4 => ?_) (fun c1 => ?_) (fun c3 c4 => ?_) (fun c2 c3 => ?_)
    (fun c1 c2 => ?_)
  · rw [tp_of_le (l12.trans (l23.trans (l34.trans c4))), tp_of_le (l23.trans (l34.trans c4)),
      tp_of_le (l34.trans c4), tp_of_le c4]
    trans ff n * specHead 4 (3 - n) e1 e2 e3 e4 x
    · simp only [specHead, Nat.reduceLeDiff, if_true, le_refl]
      ring
    · rw [specHead_four h (Nat.sub_le 3 n)]
      obtain rfl | rfl | rfl | rfl : n = 0 ∨ n = 1 ∨ n = 2 ∨ n = 3 := by omega
      all_goals simp [ff]
  · rw [tp_of_lt c1, tp_of_lt (c1.trans h.h12), tp_of_lt (c1.trans (h.h12.trans h.h23)),
      tp_of_lt (c1.trans (h.h12.trans (h.h23.trans h.h34)))]
    ring
  · rw [tp_of_le (l12.trans (l23.trans c3)), tp_of_le (l23.trans c3), tp_of_le c3, tp_of_lt c4]
    simp only [specHead, Nat.reduceLeDiff, if_true, if_false, le_refl]
    ring
  · rw [tp_of_le (l12.trans c2), tp_of_le c2, tp_of_lt c3, tp_of_lt (c3.trans h.h34)]
    simp only [specHead, Nat.reduceLeDiff, if_true, if_false]
    ring
  · rw [tp_of_le c1, tp_of_lt c2, tp_of_lt (c2.trans h.h23), tp_of_lt (c2.trans (h.h23.trans h.h34))]
    simp only [specHead, Nat.reduceLeDiff, if_false]
    ring

theorem spec_above {e1 e2 e3 e4 : K} (h : Incr e1 e2 e3 e4) {n : Nat} (hn : n ≤ 3) {x : K} (h4 : e4 ≤ x) :
    spec n e1 e2 e3 e4 x = if n = 0 then 1 else 0 := by
  rw [spec_cases h hn, piece, if_pos h4]

theorem spec_below {e1 e2 e3 e4 : K} (h : Incr e1 e2 e3 e4) {n : Nat} (hn : n ≤ 3) {x : K} (h1 : x < e1) :
    spec n e1 e2 e3 e4 x = 0 := by
  rw [spec_cases h hn, piece, if_neg (not_le.mpr (h1.trans (h.h12.trans (h.h23.trans h.h34)))), if_pos h1]

theorem piece_eq_spec {e1 e2 e3 e4 : K} (h : Incr e1 e2 e3 e4) {n : Nat} (hn : n ≤ 3) (x : K) {a b p3 p2 p1 : K}
    (ha : a = if n = 0 then 1 else 0) (hb : b = 0) (h3 : p3 = ff n * specHead 3 (3 - n) e1 e2 e3 e4 x)
    (h2 : p2 = ff n * specHead 2 (3 - n) e1 e2 e3 e4 x) (h1 : p1 = ff n * specHead 1 (3 - n) e1 e2 e3 e4 x) :
    piece e1 e2 e3 e4 x a b p3 p2 p1 = spec n e1 e2 e3 e4 x := by
  rw [spec_cases h hn, ha, hb, h3, h2, h1]

/-- the coefficients of the code's three cubics are the Taylor coefficients at 0 of `specHead 1 3`, `specHead 2 3`, `specHead 3 3` -/
theorem coefs_taylor {e1 e2 e3 e4 : K} (h : Incr e1 e2 e3 e4) : coefs e1 e2 e3 e4 =
    { c10 := specHead 1 3 e1 e2 e3 e4 0, c11 := 3 * specHead 1 2 e1 e2 e3 e4 0, c12 := 3 * specHead 1 1 e1 e2 e3 e4 0, c13 := specHead 1 0 e1 e2 e3 e4 0,
      c20 := specHead 2 3 e1 e2 e3 e4 0, c21 := 3 * specHead 2 2 e1 e2 e3 e4 0, c22 := 3 * specHead 2 1 e1 e2 e3 e4 0, c23 := specHead 2 0 e1 e2 e3 e4 0,
      c30 := specHead 3 3 e1 e2 e3 e4 0, c31 := 3 * specHead 3 2 e1 e2 e3 e4 0, c32 := 3 * specHead 3 1 e1 e2 e3 e4 0, c33 := specHead 3 0 e1 e2 e3 e4 0 } := by
  obtain ⟨n12, n13, n14, n23, n24, n34⟩ := h.ne
  rw [specHead_three h le_rfl, specHead_three h (by norm_num), specHead_three h (by norm_num), specHead_three h (by norm_num)]
  simp only [coefs, Coef.mk.injEq, specHead, two, three, Nat.cast_ofNat, Nat.reduceLeDiff, Nat.reduceEqDiff, if_true,
    if_false, le_refl]
  refine ⟨by ring, by ring, by ring, by ring, ?_, ?_, ?_, ?_, by ring, by ring, by ring, by ring⟩ <;> field_simp <;> ring

end WB.C14
