/-
  C07 helper lemmas: the hypotheses of the tensor-expression calculus hold for orthogonal matrices, its sign
  convention is the one of `transform_tensor` (proper part + declared ±1 transforms), and the ingredients of
  `rotC_is_model_rotate` (Props/C07): the curried rotation is the model's `rotate` (`WB/Model/C09.lean`).
-/
import WB.Lemmas.C07Expr
import WB.Lemmas.C09Tensor
import Mathlib.Data.Fin.Tuple.Basic
import Mathlib.Data.List.FinRange

namespace WB.C07
open WB.C09

section Orthogonal
variable {K : Type} [CommRing K]

theorem orth_iff (R : Mat K) : Orth R ↔ matMul (matT R) R = matId := by
  unfold Orth
  constructor
  · intro h; funext a b
    have := h a b
    rw [Fin.sum_univ_three] at this
    simp only [matMul, matT, sum3, matId]; exact this
  · intro h a b
    have := congrFun (congrFun h a) b
    rw [Fin.sum_univ_three]
    simpa only [matMul, matT, sum3, matId] using this

theorem adj3_of_orth (R : Mat K) (hR : Orth R) : adj3 R = matScale (matT R) (det3 R) := by
  have h1 : matMul (matT R) (matMul R (adj3 R)) = matMul (matT R) (matScale matId (det3 R)) := by
    rw [matMul_adj3]
  rw [← matMul_assoc, (orth_iff R).1 hR, matMul_id_left] at h1
  rw [h1]
  funext i j
  simp only [matMul, matScale, matId, sum3]
  fin_cases j <;> simp

theorem det_sq_of_orth (R : Mat K) (hR : Orth R) : det3 R * det3 R = 1 := by
  have := congrArg det3 ((orth_iff R).1 hR)
  rwa [det3_matMul, det3_matT, det3_matId] at this

theorem orth_smul (c : K) (hc : c * c = 1) (R : Mat K) (hR : Orth R) : Orth fun i j => c * R i j := fun a b => by
  rw [← hR a b, ← one_mul (∑ m, R m a * R m b), ← hc, Finset.mul_sum]
  exact Finset.sum_congr rfl fun m _ => by ring

theorem det3_smul (c : K) (R : Mat K) : det3 (fun i j => c * R i j) = c ^ 3 * det3 R := by
  rw [show (fun i j => c * R i j) = matScale R c from funext fun i => funext fun j => mul_comm _ _, det3_matScale]

theorem rotC_smul (c : K) (R : Mat K) : ∀ (r : Nat) (t : CT K r),
    rotC (fun i j => c * R i j) r t = c ^ r • rotC R r t
  | 0, t => by rw [pow_zero, one_smul]; rfl
  | r + 1, t => by
    funext i
    rw [rotC_succ, CT.smul_apply, rotC_succ, Finset.smul_sum]
    apply Finset.sum_congr rfl
    intro j _
    rw [rotC_smul c R r, smul_smul, smul_smul, pow_succ]
    congr 1; ring

end Orthogonal

/-! ### signs -/
section Signs
variable {K : Type} [CommRing K]

/-- `-1 if flag else 1` -/
def sB (b : Bool) : K := if b then -1 else 1

theorem dsign_sB (b a : Bool) : dsign (sB b : K) a = sB (b && a) := by cases b <;> cases a <;> rfl

theorem sB_xor (a b : Bool) : (sB (a != b) : K) = sB a * sB b := dsign_xor (-1) (neg_mul_neg 1 1 |>.trans (mul_one 1)) a b

theorem sB_mul_self (b : Bool) : (sB b : K) * sB b = 1 := by rw [← sB_xor, bne_self_eq_false]; rfl

theorem sB_pow (b : Bool) (r : Nat) : (sB b : K) ^ r = sB (b && r % 2 == 1) := by
  cases b
  · exact one_pow r
  · rcases Nat.even_or_odd r with h | h
    · rw [Nat.even_iff.mp h]; exact h.neg_one_pow
    · rw [Nat.odd_iff.mp h]; exact h.neg_one_pow

/-- The sign convention of the calculus (full orthogonal matrix, det^axial · τ^trOdd) written in the convention of
    `transform_tensor` (proper part `Rp`, then the declared transforms as factors): the inversion transform of a
    rank-`r` quantity is `(-1)^(r + axial)`, the time-reversal transform is `(-1)^trOdd`. -/
theorem code_convention (Rp : Mat K) (inv tr ax t : Bool) (r : Nat) (x : CT K r) :
    (dsign (sB inv : K) ax * dsign (sB tr : K) t) • rotC (fun i j => sB inv * Rp i j) r x
      = (sB (inv && ((r % 2 == 1) != ax)) * sB (tr && t) : K) • rotC Rp r x := by
  rw [rotC_smul, smul_smul, dsign_sB, dsign_sB, sB_pow, mul_right_comm, ← sB_xor]
  congr 3
  cases inv <;> cases ax <;> cases (r % 2 == 1) <;> rfl

end Signs

/-! ### the curried rotation is the model's `rotate` -/
section Bridge
variable {K : Type} [CommRing K]

/-- a model tensor (`WB.C09.Tensor`) as a curried tensor -/
def curry : (r : Nat) → Tensor r K → CT K r
  | 0, x => x Fin.elim0
  | r + 1, x => fun i => curry r (fun idx => x (Fin.cons i idx))

theorem curry_add : ∀ (r : Nat) (x y : Tensor r K), curry r (x + y) = curry r x + curry r y
  | 0, _, _ => rfl
  | r + 1, x, y => by
    funext i
    show curry r (fun idx => (x + y) (Fin.cons i idx)) = _
    exact curry_add r (fun idx => x (Fin.cons i idx)) (fun idx => y (Fin.cons i idx))

theorem curry_smul : ∀ (r : Nat) (c : K) (x : Tensor r K), curry r (fun idx => x idx * c) = c • curry r x
  | 0, c, x => by show x Fin.elim0 * c = c * x Fin.elim0; ring
  | r + 1, c, x => by
    funext i
    show curry r (fun idx => x (Fin.cons i idx) * c) = _
    exact curry_smul r c (fun idx => x (Fin.cons i idx))

theorem curry_sum3 (r : Nat) (x : Fin 3 → Tensor r K) (c : Fin 3 → K) :
    curry r (fun rest => sum3 fun j => x j rest * c j) = ∑ j, c j • curry r (x j) := by
  rw [Fin.sum_univ_three, ← curry_smul, ← curry_smul, ← curry_smul, ← curry_add, ← curry_add]
  rfl

theorem setIdx_cons_zero {r : Nat} (i j : Fin 3) (rest : Fin r → Fin 3) :
    setIdx (Fin.cons i rest : Fin (r + 1) → Fin 3) 0 j = Fin.cons j rest := by
  funext b
  refine Fin.cases ?_ (fun b' => ?_) b
  · simp [setIdx]
  · simp [setIdx, Fin.succ_ne_zero]

theorem setIdx_cons_succ {r : Nat} (i j : Fin 3) (rest : Fin r → Fin 3) (a : Fin r) :
    setIdx (Fin.cons i rest : Fin (r + 1) → Fin 3) a.succ j = Fin.cons i (setIdx rest a j) := by
  funext b
  refine Fin.cases ?_ (fun b' => ?_) b
  · simp [setIdx, (Fin.succ_ne_zero a).symm]
  · simp [setIdx, Fin.succ_inj]

theorem rotAxis_succ_cons {r : Nat} (A : Mat K) (a : Fin r) (y : Tensor (r + 1) K) (i : Fin 3)
    (rest : Fin r → Fin 3) :
    rotAxis A a.succ y (Fin.cons i rest) = rotAxis A a (fun idx => y (Fin.cons i idx)) rest := by
  simp only [rotAxis, setIdx_cons_succ, Fin.cons_succ]

theorem rotAxes_succ_cons {r : Nat} (A : Mat K) (l : List (Fin r)) (y : Tensor (r + 1) K) (i : Fin 3) :
    (fun rest => rotAxes A (l.map Fin.succ) y (Fin.cons i rest))
      = rotAxes A l (fun idx => y (Fin.cons i idx)) := by
  induction l generalizing y with
  | nil => rfl
  | cons a t ih =>
    rw [List.map_cons, rotAxes_cons, rotAxes_cons, ih]
    congr 1
    funext rest
    exact rotAxis_succ_cons A a y i rest

theorem rotate_succ {r : Nat} (A : Mat K) (x : Tensor (r + 1) K) (i : Fin 3) :
    (fun rest => rotate A x (Fin.cons i rest))
      = rotate A (fun rest => sum3 fun j => x (Fin.cons j rest) * A i j) := by
  unfold rotate
  rw [List.finRange_succ, rotAxes_cons, rotAxes_succ_cons]
  congr 1
  funext rest
  simp only [rotAxis, setIdx_cons_zero, Fin.cons_zero]

end Bridge

end WB.C07
