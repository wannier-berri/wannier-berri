/-
  C13 — bins are step functions of the Fermi level; the finite-difference stencils are linear in the bin array;
  the sign conventions of the overall factor.
-/
import WB.Model.C13
import Mathlib.Algebra.Order.Field.Basic
import Mathlib.Tactic.Linarith
import Mathlib.Tactic.Ring

namespace WB.C13

theorem iEf_le_iff (efmin d E : Rat) (hd : 0 < d) (z : Int) :
    iEf efmin d E ≤ z ↔ E ≤ efmin + (z : Rat) * d := by
  unfold iEf
  rw [Rat.ceil_le_iff, div_le_iff₀ hd, sub_le_iff_le_add']

/-- "the group lies below the level `x`" (`none` is the lumped group at `-inf`) -/
def Below (e : Option Rat) (x : Rat) : Prop :=
  match e with
  | none => True
  | some E => E ≤ x

instance (e : Option Rat) (x : Rat) : Decidable (Below e x) := by
  unfold Below; cases e <;> infer_instance

/-- step function of one group -/
def stepVal (g : Group) (x : Rat) : Rat := if Below g.1 x then g.2 else 0

/-- the Fermi-sea sum at level `x`: all groups with energy `≤ x`, each counted whole -/
def stepSum (groups : List Group) (x : Rat) : Rat := (groups.map (fun g => stepVal g x)).sum

theorem stepVal_none (v x : Rat) : stepVal (none, v) x = v :=
  if_pos (show Below none x from trivial)

theorem stepVal_some (E v x : Rat) : stepVal (some E, v) x = if E ≤ x then v else 0 := by
  unfold stepVal
  by_cases h : E ≤ x
  · rw [if_pos h, if_pos (show Below (some E) x from h)]
  · rw [if_neg h, if_neg (show ¬ Below (some E) x from h)]

theorem Below.mono {e : Option Rat} {x y : Rat} (h : Below e x) (hxy : x ≤ y) : Below e y := by
  cases e with
  | none => trivial
  | some E => exact le_trans (show E ≤ x from h) hxy

theorem stepSum_append (g1 g2 : List Group) (x : Rat) : stepSum (g1 ++ g2) x = stepSum g1 x + stepSum g2 x := by
  unfold stepSum; rw [List.map_append, List.sum_append]

/-- one group is in bin `j` iff its energy is `≤ efmin + j·d`, up to the end of the window: bins beyond `efmax` see
    what the bin at `efmax` sees -/
theorem contrib_eq_step (efmin efmax d : Rat) (hd : 0 < d) (hw : efmin ≤ efmax) (g : Group) (j : Nat) :
    contrib efmin efmax d g j = stepVal g (min (efmin + (j : Rat) * d) efmax) := by
  have hjd : (0 : Rat) ≤ (j : Rat) * d := mul_nonneg (Nat.cast_nonneg j) hd.le
  rcases g with ⟨_ | E, v⟩
  · rw [stepVal_none]; rfl
  · rw [stepVal_some]
    unfold contrib
    simp only [iEf_le_iff efmin d E hd j, Int.cast_natCast, le_min_iff]
    by_cases h1 : E < efmin
    · rw [if_pos h1, if_pos ⟨by linarith, h1.le.trans hw⟩]
    · by_cases h2 : E ≤ efmax
      · rw [if_neg h1, if_pos h2]
        exact if_congr (and_iff_left h2).symm rfl rfl
      · rw [if_neg h1, if_neg h2, if_neg fun h => h2 h.2]

theorem accumulate_eq_stepSum (efmin efmax d : Rat) (hd : 0 < d) (hw : efmin ≤ efmax) (groups : List Group)
    (j : Nat) :
    accumulate efmin efmax d groups j = stepSum groups (min (efmin + (j : Rat) * d) efmax) := by
  unfold accumulate stepSum
  rw [← List.sum_eq_foldl]
  exact congrArg List.sum (List.map_congr_left fun g _ => contrib_eq_step efmin efmax d hd hw g j)

theorem accumulate_none (efmin efmax d v : Rat) (j : Nat) : accumulate efmin efmax d [(none, v)] j = v :=
  zero_add v

theorem accumulate_append (efmin efmax d : Rat) (g1 g2 : List Group) (j : Nat) :
    accumulate efmin efmax d (g1 ++ g2) j = accumulate efmin efmax d g1 j + accumulate efmin efmax d g2 j := by
  unfold accumulate
  simp only [List.map_append, ← List.sum_eq_foldl, List.sum_append]

theorem stencil_0 (d : Rat) (r : Nat → Rat) (j : Nat) : stencil 0 d r j = r j := rfl
theorem stencil_1 (d : Rat) (r : Nat → Rat) (j : Nat) : stencil 1 d r j = (r (j + 2) - r j) / (2 * d) := rfl
theorem stencil_2 (d : Rat) (r : Nat → Rat) (j : Nat) :
    stencil 2 d r j = (r (j + 2) + r j - 2 * r (j + 1)) / (d * d) := rfl
theorem stencil_3 (d : Rat) (r : Nat → Rat) (j : Nat) :
    stencil 3 d r j = (r (j + 4) - r j - 2 * (r (j + 3) - r (j + 1))) / (2 * (d * d * d)) := rfl
theorem stencil_ge4 (n : Nat) (d : Rat) (r : Nat → Rat) (j : Nat) : stencil (n + 4) d r j = 0 := rfl

theorem stencil_add (fder : Nat) (d : Rat) (r s : Nat → Rat) (j : Nat) :
    stencil fder d (fun i => r i + s i) j = stencil fder d r j + stencil fder d s j := by
  unfold stencil
  split <;> ring

theorem stencil_div (fder : Nat) (d : Rat) (r : Nat → Rat) (c : Rat) (j : Nat) :
    stencil fder d (fun i => r i / c) j = stencil fder d r j / c := by
  unfold stencil
  split <;> ring

theorem stencil_const (fder : Nat) (hf : 1 ≤ fder) (d c : Rat) (j : Nat) : stencil fder d (fun _ => c) j = 0 := by
  unfold stencil
  split
  · exact absurd hf (by decide)
  all_goals ring

theorem stencil_sum {α : Type} (fder : Nat) (d : Rat) (f : α → Nat → Rat) (l : List α) (j : Nat) :
    stencil fder d (fun i => (l.map (fun a => f a i)).sum) j = (l.map (fun a => stencil fder d (f a) j)).sum := by
  induction l with
  | nil => simpa using stencil_add fder d (fun _ => 0) (fun _ => 0) j
  | cons a l ih =>
    simp only [List.map_cons, List.sum_cons]
    rw [stencil_add, ih]

/-- the stencil of order `fder` at `j` reads the bins `j … j + 2·extraEf fder` only -/
theorem stencil_congr (fder : Nat) (d : Rat) (r s : Nat → Rat) (j : Nat)
    (h : ∀ k, k ≤ 2 * extraEf fder → r (j + k) = s (j + k)) : stencil fder d r j = stencil fder d s j := by
  have h0 : r j = s j := h 0 (Nat.zero_le _)
  unfold stencil
  split
  · exact h0
  · rw [h0, h 2 (by decide)]
  · rw [h0, h 2 (by decide), h 1 (by decide)]
  · rw [h0, h 4 (by decide), h 3 (by decide), h 1 (by decide)]
  · rfl

theorem sumK_map {α : Type} (f : α → Nat → Rat) (l : List α) (j : Nat) :
    sumK (l.map f) j = (l.map (fun a => f a j)).sum := by
  unfold sumK
  rw [← List.sum_eq_foldl, List.map_map]
  rfl

theorem sgn_neg (c : Rat) : sgn (-c) = - sgn c := by
  unfold sgn
  rcases lt_trichotomy c 0 with h | rfl | h
  · rw [if_pos (neg_pos.mpr h), if_neg (lt_asymm h), if_pos h, neg_neg]
  · rw [neg_zero, if_neg (lt_irrefl 0), if_neg (lt_irrefl 0), neg_zero]
  · rw [if_neg (not_lt.mpr (neg_nonpos.mpr h.le)), if_pos (neg_lt_zero.mpr h), if_pos h]

theorem effFactor_hole (cf : Rat) (u : Bool) : effFactor cf true 0 u = - effFactor cf false 0 u := by
  cases u
  · exact sgn_neg cf
  · rfl

theorem effFactor_hole_pos (cf : Rat) (u : Bool) (fder : Nat) (hf : 1 ≤ fder) :
    effFactor cf true fder u = effFactor cf false fder u := by
  unfold effFactor
  rw [show (fder == 0) = false from beq_false_of_ne (by omega)]
  rfl

end WB.C13
