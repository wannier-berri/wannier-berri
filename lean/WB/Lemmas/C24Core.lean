/-
  `U = E·W` for the embedding `E` of C24: zero rows, isometry, frozen states in the span, the polar factor.
  `Props/C24.lean` restates these as T2–T4.
-/
import WB.Lemmas.C24
import Mathlib.LinearAlgebra.Matrix.SemiringInverse

namespace WB.C24.Core
open WB.C24 Matrix

section
variable {K : Type} [CommRing K]

theorem frozen_unit_is_column (fz fr : List Nat) (Uf : Nat → Nat → K) (nb nw : Nat)
    (hfzlt : ∀ b ∈ fz, b < nb) (j : Nat) (hj : j < fz.length) (hjw : j < nw) :
    (Pi.single (⟨fz[j], hfzlt _ (List.getElem_mem hj)⟩ : Fin nb) (1 : K))
      = Emat fz fr Uf nb nw *ᵥ Pi.single (⟨j, hjw⟩ : Fin nw) 1 := by
  rw [mulVec_single_one]
  ext b
  simp only [Matrix.col_apply, Emat, Matrix.of_apply, embed_frozen_col _ _ _ _ _ hj, Pi.single_apply]
  by_cases hb : fz[j] = b.val
  · rw [if_pos hb, if_pos (Fin.ext hb.symm)]
  · rw [if_neg hb, if_neg (fun h => hb (by rw [h]))]

theorem outer_zero (fz fr : List Nat) (Uf : Nat → Nat → K) (nb nw : Nat)
    (W : Matrix (Fin nw) (Fin nw) K) (b : Fin nb) (h1 : b.val ∉ fz) (h2 : b.val ∉ fr) (w : Fin nw) :
    (Emat fz fr Uf nb nw * W) b w = 0 := by
  rw [Matrix.mul_apply]
  apply Finset.sum_eq_zero
  intro j _
  simp only [Emat, Matrix.of_apply, embed_zero_row fz fr Uf b.val j.val h1 h2, zero_mul]

/-- `rotate_to_projections` returns `E·W`: the rows it leaves at zero are zero rows of `E` -/
theorem finalU_apply (fz fr : List Nat) (Uf : Nat → Nat → K) (nb nw : Nat) (sel : Nat → Bool)
    (hsel : ∀ b, sel b = true ↔ (b ∈ fz ∨ b ∈ fr)) (W : Nat → Nat → K) (b : Fin nb) (w : Fin nw) :
    finalU sel nw (embed fz fr Uf) W b.val w.val
      = (Emat fz fr Uf nb nw * Matrix.of fun i j : Fin nw => W i.val j.val) b w := by
  unfold finalU
  by_cases hb : sel b.val = true
  · rw [if_pos hb, sumTo_eq, Matrix.mul_apply,
      ← Fin.sum_univ_eq_sum_range (fun j => embed fz fr Uf b.val j * W j w.val) nw]
    rfl
  · rw [if_neg hb]
    have hb' : b.val ∉ fz ∧ b.val ∉ fr := not_or.1 ((hsel b.val).not.1 hb)
    exact (outer_zero fz fr Uf nb nw _ b hb'.1 hb'.2 w).symm

theorem finalU_eq_mul (fz fr : List Nat) (Uf : Nat → Nat → K) (nb nw : Nat) (sel : Nat → Bool)
    (hsel : ∀ b, sel b = true ↔ (b ∈ fz ∨ b ∈ fr))
    (W : Matrix (Fin nw) (Fin nw) K) (b : Fin nb) (w : Fin nw) :
    finalU sel nw (embed fz fr Uf) (fun i j => if h : i < nw ∧ j < nw then W ⟨i, h.1⟩ ⟨j, h.2⟩ else 0) b.val w.val
      = (Emat fz fr Uf nb nw * W) b w := by
  rw [finalU_apply fz fr Uf nb nw sel hsel]
  exact congrArg (fun M : Matrix (Fin nw) (Fin nw) K => (Emat fz fr Uf nb nw * M) b w)
    (Matrix.ext fun i j => dif_pos ⟨i.isLt, j.isLt⟩)

theorem finalU_zero_outside (sel : Nat → Bool) (nw : Nat) (Emb W : Nat → Nat → K) (b w : Nat)
    (h : sel b = false) : finalU sel nw Emb W b w = 0 := by
  unfold finalU; simp [h]

end

section
variable {K : Type} [CommRing K] [StarRing K]

theorem embedding_isometry (fz fr : List Nat) (Uf : Nat → Nat → K) (nb ng : Nat)
    (hfz : fz.Nodup) (hfr : fr.Nodup) (hdisj : ∀ b ∈ fz, b ∉ fr)
    (hfzlt : ∀ b ∈ fz, b < nb) (hfrlt : ∀ b ∈ fr, b < nb)
    (hUf : (Ufmat Uf fr.length ng)ᴴ * Ufmat Uf fr.length ng = 1) :
    (Emat fz fr Uf nb (fz.length + ng))ᴴ * Emat fz fr Uf nb (fz.length + ng) = 1 :=
  Emat_isometry fz fr Uf nb _ hfz hfr hdisj hfzlt hfrlt (by rwa [Nat.add_sub_cancel_left])

theorem isometry {m n : Type} [Fintype m] [Fintype n] [DecidableEq n]
    (E : Matrix m n K) (W : Matrix n n K) (hE : Eᴴ * E = 1) (hW : Wᴴ * W = 1) :
    (E * W)ᴴ * (E * W) = 1 := by
  rw [conjTranspose_mul, Matrix.mul_assoc, ← Matrix.mul_assoc Eᴴ, hE, Matrix.one_mul, hW]

theorem projector_fixes_range {m n : Type} [Fintype m] [Fintype n] [DecidableEq n]
    (E : Matrix m n K) (W : Matrix n n K) (hE : Eᴴ * E = 1) (hW : Wᴴ * W = 1) (c : n → K) :
    ((E * W) * (E * W)ᴴ) *ᵥ (E *ᵥ c) = E *ᵥ c := by
  have hW' : W * Wᴴ = 1 := mul_eq_one_comm.1 hW
  rw [conjTranspose_mul, Matrix.mul_assoc, ← Matrix.mul_assoc W, hW', Matrix.one_mul, mulVec_mulVec,
    Matrix.mul_assoc, hE, Matrix.mul_one]

theorem frozen_in_span (fz fr : List Nat) (Uf : Nat → Nat → K) (nb ng : Nat)
    (hfz : fz.Nodup) (hfr : fr.Nodup) (hdisj : ∀ b ∈ fz, b ∉ fr)
    (hfzlt : ∀ b ∈ fz, b < nb) (hfrlt : ∀ b ∈ fr, b < nb)
    (hUf : (Ufmat Uf fr.length ng)ᴴ * Ufmat Uf fr.length ng = 1)
    (W : Matrix (Fin (fz.length + ng)) (Fin (fz.length + ng)) K) (hW : Wᴴ * W = 1)
    (j : Nat) (hj : j < fz.length) :
    let U := Emat fz fr Uf nb (fz.length + ng) * W
    (U * Uᴴ) *ᵥ (Pi.single (⟨fz[j], hfzlt _ (List.getElem_mem hj)⟩ : Fin nb) (1 : K))
      = Pi.single (⟨fz[j], hfzlt _ (List.getElem_mem hj)⟩ : Fin nb) 1 := by
  intro U
  rw [frozen_unit_is_column fz fr Uf nb (fz.length + ng) hfzlt j hj (Nat.lt_add_right ng hj)]
  exact projector_fixes_range _ W (embedding_isometry fz fr Uf nb ng hfz hfr hdisj hfzlt hfrlt hUf) hW _

theorem orthogonalised_keeps_constraints (fz fr : List Nat) (Uf : Nat → Nat → K) (nb nw : Nat)
    (hfzlt : ∀ b ∈ fz, b < nb)
    (W W' H H' : Matrix (Fin nw) (Fin nw) K) (Q : Matrix (Fin nb) (Fin nw) K)
    (hQ : Qᴴ * Q = 1) (hpolar : Q * H = Emat fz fr Uf nb nw * W) (hH : H * H' = 1) (hW : W * W' = 1) :
    (∀ j (hj : j < fz.length) (_ : j < nw),
        (Q * Qᴴ) *ᵥ (Pi.single (⟨fz[j], hfzlt _ (List.getElem_mem hj)⟩ : Fin nb) (1 : K))
          = Pi.single (⟨fz[j], hfzlt _ (List.getElem_mem hj)⟩ : Fin nb) 1) ∧
    (∀ (b : Fin nb), b.val ∉ fz → b.val ∉ fr → ∀ w, Q b w = 0) := by
  -- `Q` and `E` have the same column space
  have hQE : Q = Emat fz fr Uf nb nw * (W * H') := by
    rw [← Matrix.mul_assoc, ← hpolar, Matrix.mul_assoc, hH, Matrix.mul_one]
  have hEQ : Emat fz fr Uf nb nw = Q * (H * W') := by
    rw [← Matrix.mul_assoc, hpolar, Matrix.mul_assoc, hW, Matrix.mul_one]
  constructor
  · intro j hj hjw
    rw [frozen_unit_is_column fz fr Uf nb nw hfzlt j hj hjw, hEQ, mulVec_mulVec, ← Matrix.mul_assoc,
      Matrix.mul_assoc Q Qᴴ, hQ, Matrix.mul_one]
  · intro b h1 h2 w
    rw [hQE]
    exact outer_zero fz fr Uf nb nw (W * H') b h1 h2 w

end

end WB.C24.Core
