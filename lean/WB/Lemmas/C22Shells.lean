/-
  C22 — shells (`k_to_shells`), the search box, the weights/guard of `get_shell_weights`
  and the shell loop of `find_bk_vectors`.
-/
import WB.Model.C22
import Mathlib.Algebra.BigOperators.Group.List.Basic
import Mathlib.Algebra.BigOperators.Ring.List
import Mathlib.Algebra.Order.BigOperators.Group.List
import Mathlib.Algebra.Order.Field.Rat
import Mathlib.Tactic.Ring

namespace WB.C22

def dot (a b : Q3) : Rat := a.1 * b.1 + a.2.1 * b.2.1 + a.2.2 * b.2.2

def shellOf (l : List BV) (L : Rat) : Shell := l.filter (fun p => norm2 p.2 == L)

theorem kToShells_eq (l : List BV) : kToShells l = (shellKeys l).map (shellOf l) := rfl

theorem mem_insertUniq (x y : Rat) : ∀ l : List Rat, y ∈ insertUniq x l ↔ y = x ∨ y ∈ l
  | [] => by rw [insertUniq, List.mem_singleton, or_iff_left List.not_mem_nil]
  | z :: l => by
    rw [insertUniq]
    split_ifs with h1 h2
    · exact List.mem_cons
    · rw [← h2, List.mem_cons, or_self_left]
    · rw [List.mem_cons, mem_insertUniq x y l, List.mem_cons]; exact or_left_comm

theorem insertUniq_sorted (x : Rat) : ∀ l : List Rat, l.Pairwise (· < ·) → (insertUniq x l).Pairwise (· < ·)
  | [], _ => List.pairwise_singleton _ _
  | z :: l, h => by
    obtain ⟨hz, hl⟩ := List.pairwise_cons.1 h
    rw [insertUniq]
    split_ifs with h1 h2
    · exact List.pairwise_cons.2 ⟨fun a ha => (List.mem_cons.1 ha).elim (· ▸ h1) fun ha => h1.trans (hz a ha), h⟩
    · exact h
    · refine List.pairwise_cons.2 ⟨fun a ha => ?_, insertUniq_sorted x l hl⟩
      exact ((mem_insertUniq x a l).1 ha).elim (· ▸ lt_of_le_of_ne (not_lt.1 h1) (Ne.symm h2)) (hz a)

theorem mem_foldr_insertUniq (y : Rat) : ∀ l : List Rat, y ∈ l.foldr insertUniq [] ↔ y ∈ l
  | [] => by simp
  | x :: l => by rw [List.foldr_cons, mem_insertUniq, mem_foldr_insertUniq y l, List.mem_cons]

theorem foldr_insertUniq_sorted : ∀ l : List Rat, (l.foldr insertUniq []).Pairwise (· < ·)
  | [] => by simp
  | x :: l => by rw [List.foldr_cons]; exact insertUniq_sorted x _ (foldr_insertUniq_sorted l)

theorem mem_shellKeys (l : List BV) (L : Rat) : L ∈ shellKeys l ↔ L ≠ 0 ∧ ∃ p ∈ l, norm2 p.2 = L := by
  simp only [shellKeys, mem_foldr_insertUniq, List.mem_filter, List.mem_map, decide_eq_true_eq]
  exact ⟨fun ⟨⟨p, hp, e⟩, h0⟩ => ⟨h0, p, hp, e⟩, fun ⟨h0, p, hp, e⟩ => ⟨⟨p, hp, e⟩, h0⟩⟩

theorem mem_shellOf (l : List BV) (L : Rat) (p : BV) : p ∈ shellOf l L ↔ p ∈ l ∧ norm2 p.2 = L := by
  unfold shellOf
  rw [List.mem_filter]
  simp

theorem mem_kToShells (l : List BV) (S : Shell) : S ∈ kToShells l ↔ ∃ L ∈ shellKeys l, S = shellOf l L := by
  rw [kToShells_eq, List.mem_map]
  constructor <;> rintro ⟨L, hL, h⟩ <;> exact ⟨L, hL, h.symm⟩

theorem mem_symRange (m : Nat) (x : Int) : x ∈ symRange m ↔ -(m : Int) ≤ x ∧ x ≤ (m : Int) := by
  simp only [symRange, List.mem_map, List.mem_range]
  exact ⟨by rintro ⟨t, ht, rfl⟩; omega, fun h => ⟨(x + m).toNat, by omega, by omega⟩⟩

theorem mem_boxList (N : G3) (s : Nat) (n : I3) : n ∈ boxList N s ↔
    (-((s * N.1 : Nat) : Int) ≤ n.1 ∧ n.1 ≤ ((s * N.1 : Nat) : Int)) ∧
    (-((s * N.2.1 : Nat) : Int) ≤ n.2.1 ∧ n.2.1 ≤ ((s * N.2.1 : Nat) : Int)) ∧
    (-((s * N.2.2 : Nat) : Int) ≤ n.2.2 ∧ n.2.2 ≤ ((s * N.2.2 : Nat) : Int)) := by
  simp only [boxList, List.mem_flatMap, List.mem_map, mem_symRange]
  exact ⟨by rintro ⟨i, hi, j, hj, k, hk, rfl⟩; exact ⟨hi, hj, hk⟩, fun ⟨hi, hj, hk⟩ => ⟨_, hi, _, hj, _, hk, rfl⟩⟩

theorem neg_mem_boxList (N : G3) (s : Nat) (n : I3) (h : n ∈ boxList N s) : neg3 n ∈ boxList N s := by
  rw [mem_boxList] at h ⊢
  unfold neg3
  simp only
  omega

theorem norm2_cart_neg3 (B : Basis) (n : I3) : norm2 (cart B (neg3 n)) = norm2 (cart B n) := by
  simp only [norm2, cart, neg3, Int.cast_neg, neg_mul, ← neg_add, mul_neg, neg_neg]

theorem mem_boxBV (B : Basis) (N : G3) (s : Nat) (p : BV) :
    p ∈ boxBV B N s ↔ p.1 ∈ boxList N s ∧ p.2 = cart B p.1 := by
  unfold boxBV
  rw [List.mem_map]
  constructor
  · rintro ⟨n, hn, rfl⟩; exact ⟨hn, rfl⟩
  · rintro ⟨h1, h2⟩; exact ⟨p.1, h1, Prod.ext rfl h2.symm⟩

theorem wbb_append (a b : List WB3) (i j : Fin 3) : wbb (a ++ b) i j = wbb a i j + wbb b i j := by
  unfold wbb
  rw [List.map_append, List.sum_append]

theorem wbb_shell (w : Rat) (S : Shell) (i j : Fin 3) :
    wbb (S.map (fun b => (w, b.1, b.2))) i j = w * shellMat S i j := by
  unfold wbb shellMat
  rw [List.map_map, ← List.sum_map_mul_left]
  exact congrArg List.sum (List.map_congr_left fun b _ => mul_assoc ..)

theorem wbb_flatMap (zs : List (Rat × Shell)) (i j : Fin 3) :
    wbb (zs.flatMap (fun p => p.2.map (fun b => (p.1, b.1, b.2)))) i j =
      (zs.map (fun p => p.1 * shellMat p.2 i j)).sum := by
  induction zs with
  | nil => rfl
  | cons z zs ih =>
    rw [List.flatMap_cons, wbb_append, ih, wbb_shell, List.map_cons, List.sum_cons]

theorem sum_dot_eq_wbb (q : Q3) (i : Fin 3) (r : List WB3) :
    (r.map (fun p => p.1 * el p.2.2 i * dot q p.2.2)).sum =
      q.1 * wbb r i 0 + q.2.1 * wbb r i 1 + q.2.2 * wbb r i 2 := by
  unfold wbb
  rw [← List.sum_map_mul_left, ← List.sum_map_mul_left, ← List.sum_map_mul_left, ← List.sum_map_add, ← List.sum_map_add]
  exact congrArg List.sum (List.map_congr_left fun p _ => by simp only [dot, el]; ring)

theorem delta_contract (q : Q3) (i : Fin 3) :
    q.1 * delta i 0 + q.2.1 * delta i 1 + q.2.2 * delta i 2 = el q i := by
  unfold delta
  match i with
  | 0 => simp only [el, ↓reduceIte, Fin.reduceEq, mul_one, mul_zero, add_zero]
  | 1 => simp only [el, ↓reduceIte, Fin.reduceEq, mul_one, mul_zero, add_zero, zero_add]
  | 2 => simp only [el, ↓reduceIte, Fin.reduceEq, mul_one, mul_zero, add_zero, zero_add]

theorem mem_fin3 (i : Fin 3) : i ∈ fin3 := by
  unfold fin3
  revert i
  decide

theorem le_sum_fin3 (f : Fin 3 → Rat) (hf : ∀ i, 0 ≤ f i) (i : Fin 3) : f i ≤ (fin3.map f).sum :=
  List.single_le_sum (fun _ hx => by obtain ⟨b, _, rfl⟩ := List.mem_map.mp hx; exact hf b) _
    (List.mem_map.mpr ⟨i, mem_fin3 i, rfl⟩)

theorem entry_sq_le_frob2 (A : Fin 3 → Fin 3 → Rat) (i j : Fin 3) :
    (A i j - delta i j) * (A i j - delta i j) ≤ frob2 A := by
  have hrow : ∀ i, 0 ≤ (fin3.map fun j => (A i j - delta i j) * (A i j - delta i j)).sum := fun i =>
    List.sum_nonneg fun x hx => by obtain ⟨b, _, rfl⟩ := List.mem_map.mp hx; exact mul_self_nonneg _
  exact (le_sum_fin3 (fun j => (A i j - delta i j) * (A i j - delta i j)) (fun _ => mul_self_nonneg _) j).trans
    (le_sum_fin3 _ hrow i)

theorem mem_expand (ws : List Rat) (shells : List Shell) (x : WB3) :
    x ∈ expand ws shells ↔ ∃ p ∈ ws.zip shells, x.1 = p.1 ∧ (x.2.1, x.2.2) ∈ p.2 := by
  unfold expand
  rw [List.mem_flatMap]
  constructor
  · rintro ⟨p, hp, hx⟩
    obtain ⟨b, hb, rfl⟩ := List.mem_map.mp hx
    exact ⟨p, hp, rfl, hb⟩
  · rintro ⟨p, hp, h1, h2⟩
    refine ⟨p, hp, List.mem_map.mpr ⟨(x.2.1, x.2.2), h2, ?_⟩⟩
    rw [← h1]

theorem expand_vectors (ws : List Rat) (shells : List Shell) (h : ws.length = shells.length) :
    (expand ws shells).map (fun x => (x.2.1, x.2.2)) = shells.flatten := by
  unfold expand
  rw [List.map_flatMap, List.flatMap_def]
  congr 1
  conv_rhs => rw [← List.map_snd_zip (l₁ := ws) h.ge]
  exact List.map_congr_left fun p _ => (List.map_map ..).trans (List.map_id _)

theorem findLoop_spec (par : List Shell → Shell → Bool) (kernel : List Shell → Solve) (tol : Rat) :
    ∀ (shells acc : List Shell) (r : List WB3), findLoop par kernel tol shells acc = some r →
      ∃ (t : List Shell) (ws : List Rat), t.Sublist shells ∧ t ≠ [] ∧
        kernel (acc ++ t) = .weights ws ∧ shellWeights ws (acc ++ t) tol = some r
  | [], acc, r, h => by simp [findLoop] at h
  | s :: rest, acc, r, h => by
    unfold findLoop at h
    split at h
    on_goal 2 => split at h
    -- the shell is passed over (parallel, or a vanishing singular value): the answer comes from the rest
    iterate 2
      obtain ⟨t, ws, h1, h2, h3, h4⟩ := findLoop_spec par kernel tol rest acc r h
      exact ⟨t, ws, h1.cons _, h2, h3, h4⟩
    rename_i ws hk
    split at h
    · rename_i r' hsw
      cases h
      exact ⟨[s], ws, by simp, by simp, hk, hsw⟩
    · obtain ⟨t, ws', h1, h2, h3, h4⟩ := findLoop_spec par kernel tol rest (acc ++ [s]) r h
      exact ⟨s :: t, ws', h1.cons_cons _, by simp, List.append_assoc acc [s] t ▸ h3, List.append_assoc acc [s] t ▸ h4⟩

end WB.C22
