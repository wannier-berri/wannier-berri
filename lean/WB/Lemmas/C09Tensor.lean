/-
  C09: tensors.  Axis-wise rotation composes like matrix multiplication and commutes with the Transforms (sign,
  conjugation, axis transposition); hence `transform_tensor` is additive and, under `sideCond` (`sideCond_iff`), composes
  like the operations (`transformTensor_comp`).
-/
import WB.Lemmas.C09Alg
import Mathlib.Algebra.Ring.Hom.Defs
import Mathlib.Algebra.Group.Pi.Basic
import Mathlib.Data.List.FinRange

set_option linter.unusedSectionVars false

namespace WB.C09

theorem setIdx_eq_update {r : Nat} (idx : Fin r → Fin 3) (a : Fin r) (j : Fin 3) :
    setIdx idx a j = Function.update idx a j := by
  funext b; simp [setIdx, Function.update]

section Rot
variable {K : Type} [CommRing K] {r : Nat}

theorem rotAxis_comm (A B : Mat K) {a b : Fin r} (h : a ≠ b) (x : Tensor r K) :
    rotAxis A a (rotAxis B b x) = rotAxis B b (rotAxis A a x) := by
  funext idx
  simp only [rotAxis, sum3, setIdx_eq_update, Function.update_of_ne h, Function.update_of_ne h.symm,
    Function.update_comm h]
  ring

theorem rotAxis_rotAxis (A B : Mat K) (a : Fin r) (x : Tensor r K) :
    rotAxis A a (rotAxis B a x) = rotAxis (matMul A B) a x := by
  funext idx
  simp only [rotAxis, sum3, setIdx_eq_update, Function.update_self, Function.update_idem, matMul]
  ring

theorem rotAxes_cons (A : Mat K) (a : Fin r) (l : List (Fin r)) (x : Tensor r K) :
    rotAxes A (a :: l) x = rotAxes A l (rotAxis A a x) := rfl

theorem rotAxes_comm_of (A : Mat K) (f : Tensor r K → Tensor r K) (l : List (Fin r))
    (hf : ∀ a ∈ l, ∀ x, rotAxis A a (f x) = f (rotAxis A a x)) (x : Tensor r K) :
    rotAxes A l (f x) = f (rotAxes A l x) := by
  induction l generalizing x with
  | nil => rfl
  | cons b t ih =>
    rw [rotAxes_cons, rotAxes_cons, hf b List.mem_cons_self, ih fun a ha => hf a (List.mem_cons_of_mem _ ha)]

theorem rotAxes_mul (A B : Mat K) (l : List (Fin r)) (hl : l.Nodup) (x : Tensor r K) :
    rotAxes A l (rotAxes B l x) = rotAxes (matMul A B) l x := by
  induction l generalizing x with
  | nil => rfl
  | cons a t ih =>
    obtain ⟨ha, ht⟩ := List.nodup_cons.1 hl
    rw [rotAxes_cons, rotAxes_cons, rotAxes_cons, ← rotAxes_comm_of B (rotAxis A a) t
      fun b hb x => rotAxis_comm B A (fun e : b = a => ha (e ▸ hb)) x, ih ht, rotAxis_rotAxis]

theorem rotate_mul (A B : Mat K) (x : Tensor r K) : rotate A (rotate B x) = rotate (matMul A B) x :=
  rotAxes_mul A B _ (List.nodup_finRange r) x

theorem rotAxes_perm (A : Mat K) {l1 l2 : List (Fin r)} (p : l1.Perm l2) (x : Tensor r K) :
    rotAxes A l1 x = rotAxes A l2 x := by
  unfold rotAxes
  refine p.foldl_eq' (fun a _ b _ z => ?_) x
  by_cases h : a = b
  · rw [h]
  · exact rotAxis_comm A A (Ne.symm h) z

theorem rotAxis_id (a : Fin r) (x : Tensor r K) : rotAxis (matId : Mat K) a x = x := by
  funext idx
  simp only [rotAxis, matId, eq_comm (a := idx a)]
  rw [sum3_ite_right (idx a) fun j => x (setIdx idx a j), setIdx_eq_update, Function.update_eq_self]

theorem rotate_id (x : Tensor r K) : rotate (matId : Mat K) x = x := by
  unfold rotate rotAxes
  induction (List.finRange r) generalizing x with
  | nil => rfl
  | cons a t ih => rw [List.foldl_cons, rotAxis_id, ih]

theorem rotAxis_add (A : Mat K) (a : Fin r) (x y : Tensor r K) :
    rotAxis A a (x + y) = rotAxis A a x + rotAxis A a y := by
  funext idx; simp only [rotAxis, sum3, Pi.add_apply]; ring

theorem rotAxes_add (A : Mat K) (l : List (Fin r)) (x y : Tensor r K) :
    rotAxes A l (x + y) = rotAxes A l x + rotAxes A l y := by
  induction l generalizing x y with
  | nil => rfl
  | cons a t ih => rw [rotAxes_cons, rotAxes_cons, rotAxes_cons, rotAxis_add, ih]

end Rot

section Trans
variable {K : Type} [CommRing K] {r : Nat} (conj : K →+* K)

/-- apply `φ` to every component if `b` (the sign and the conjugation of a Transform) -/
def mapIf (b : Bool) (φ : K → K) (x : Tensor r K) : Tensor r K := if b then (fun idx => φ (x idx)) else x

theorem permute_id (x : Tensor r K) : permute (id : Fin r → Fin r) x = x := rfl

theorem Transform.apply_eq (t : Transform r) (x : Tensor r K) :
    t.apply conj x = mapIf t.neg (- ·) (mapIf t.conj conj (permute t.sigma x)) := by
  unfold Transform.apply Transform.sigma mapIf
  cases t.perm <;> rfl

theorem permute_permute (σ τ : Fin r → Fin r) (x : Tensor r K) :
    permute σ (permute τ x) = permute (fun a => σ (τ a)) x := rfl

theorem permute_mapIf (σ : Fin r → Fin r) (b : Bool) (φ : K → K) (x : Tensor r K) :
    permute σ (mapIf b φ x) = mapIf b φ (permute σ x) := by
  cases b <;> rfl

theorem mapIf_comm (b c : Bool) (φ ψ : K → K) (h : ∀ a, φ (ψ a) = ψ (φ a)) (x : Tensor r K) :
    mapIf b φ (mapIf c ψ x) = mapIf c ψ (mapIf b φ x) := by
  cases b <;> cases c <;> simp [mapIf, h]

theorem mapIf_self (b : Bool) (φ : K → K) (h : ∀ a, φ (φ a) = a) (x : Tensor r K) :
    mapIf b φ (mapIf b φ x) = x := by
  cases b <;> simp [mapIf, h]

theorem Transform.apply_apply (hinv : ∀ a, conj (conj a) = a) (t : Transform r)
    (hσ : ∀ a, t.sigma (t.sigma a) = a) (x : Tensor r K) : t.apply conj (t.apply conj x) = x := by
  rw [Transform.apply_eq, Transform.apply_eq, permute_mapIf, permute_mapIf, permute_permute,
    mapIf_comm t.conj t.neg conj (- ·) (map_neg conj), mapIf_self _ _ neg_neg, mapIf_self _ _ hinv]
  exact congrArg (permute · x) (funext hσ)

theorem Transform.apply_comm (t s : Transform r) (hσ : ∀ a, t.sigma (s.sigma a) = s.sigma (t.sigma a))
    (x : Tensor r K) : t.apply conj (s.apply conj x) = s.apply conj (t.apply conj x) := by
  simp only [Transform.apply_eq, permute_mapIf, permute_permute, mapIf_comm _ _ conj (- ·) (map_neg conj)]
  rw [mapIf_comm t.neg s.neg (- ·) (- ·) fun _ => rfl, mapIf_comm t.conj s.conj conj conj fun _ => rfl]
  simp only [hσ]

theorem rotAxis_mapIf (A : Mat K) (a : Fin r) (b : Bool) (φ : K → K)
    (hφ : ∀ (u v w : K) (i : Fin 3),
      φ (u * A i 0 + v * A i 1 + w * A i 2) = φ u * A i 0 + φ v * A i 1 + φ w * A i 2) (x : Tensor r K) :
    rotAxis A a (mapIf b φ x) = mapIf b φ (rotAxis A a x) := by
  cases b
  · rfl
  · funext idx; exact (hφ _ _ _ _).symm

theorem rotAxis_permute (A : Mat K) (σ : Fin r → Fin r) (hσ : Function.Injective σ) (b : Fin r)
    (x : Tensor r K) : rotAxis A (σ b) (permute σ x) = permute σ (rotAxis A b x) := by
  funext idx
  simp only [rotAxis, permute]
  have e : ∀ j : Fin 3, (fun c => setIdx idx (σ b) j (σ c)) = setIdx (fun c => idx (σ c)) b j := fun j => by
    rw [setIdx_eq_update, setIdx_eq_update]; exact Function.update_comp_eq_of_injective idx hσ b j
  simp only [e]

theorem rotAxes_permute (A : Mat K) (σ : Fin r → Fin r) (hσ : Function.Injective σ) (l : List (Fin r))
    (x : Tensor r K) : rotAxes A (l.map σ) (permute σ x) = permute σ (rotAxes A l x) := by
  induction l generalizing x with
  | nil => rfl
  | cons a t ih => rw [List.map_cons, rotAxes_cons, rotAxes_cons, rotAxis_permute A σ hσ, ih]

theorem rotate_permute (A : Mat K) (σ : Fin r → Fin r) (hσ : ∀ a, σ (σ a) = a) (x : Tensor r K) :
    rotate A (permute σ x) = permute σ (rotate A x) := by
  have hp : ((List.finRange r).map σ).Perm (List.finRange r) :=
    (Function.Involutive.toPerm σ hσ).map_finRange_perm
  unfold rotate
  rw [← rotAxes_perm A hp, rotAxes_permute A σ (Function.Involutive.injective hσ)]

theorem rotate_apply (A : Mat K) (hA : ∀ i j, conj (A i j) = A i j) (t : Transform r)
    (hσ : ∀ a, t.sigma (t.sigma a) = a) (x : Tensor r K) :
    rotate A (t.apply conj x) = t.apply conj (rotate A x) := by
  rw [Transform.apply_eq, Transform.apply_eq]
  unfold rotate
  rw [rotAxes_comm_of A _ _ fun a _ => rotAxis_mapIf A a _ _ fun u v w i => by ring,
    rotAxes_comm_of A _ _ fun a _ => rotAxis_mapIf A a _ _ fun u v w i => by simp only [map_add, map_mul, hA]]
  have := rotate_permute A t.sigma hσ x
  unfold rotate at this
  rw [this]

theorem Transform.apply_add (t : Transform r) (x y : Tensor r K) :
    t.apply conj (x + y) = t.apply conj x + t.apply conj y := by
  simp only [Transform.apply_eq]
  cases t.neg <;> cases t.conj <;> funext idx <;> simp [mapIf, permute, Pi.add_apply] <;> ring

end Trans

section TT
variable {F K : Type} [CommRing F] [CommRing K] {r : Nat} (ι : F →+* K) (conj : K →+* K)

theorem map_matMul (A B : Mat F) :
    (fun i j => ι (matMul A B i j)) = matMul (fun i j => ι (A i j)) (fun i j => ι (B i j)) := by
  funext i j; simp [matMul, sum3, map_add, map_mul]

theorem transformTensor_add (g : PSym F) (tT tI : Transform r) (x y : Tensor r K) :
    transformTensor ι conj g tT tI (x + y)
      = transformTensor ι conj g tT tI x + transformTensor ι conj g tT tI y := by
  unfold transformTensor rotate
  simp only [rotAxes_add]
  cases g.tr <;> cases g.inv <;> simp [Transform.apply_add]

theorem sideCond_iff (tT tI : Transform r) : sideCond tT tI = true ↔ (∀ a, tT.sigma (tT.sigma a) = a) ∧
    (∀ a, tI.sigma (tI.sigma a) = a) ∧ ∀ a, tT.sigma (tI.sigma a) = tI.sigma (tT.sigma a) := by
  simp [sideCond, forall_and, and_assoc]

theorem transformTensor_comp (hreal : ∀ a : F, conj (ι a) = ι a) (hinv : ∀ a, conj (conj a) = a)
    (tT tI : Transform r) (hside : sideCond tT tI = true) (g h : PSym F) (x : Tensor r K) :
    transformTensor ι conj g tT tI (transformTensor ι conj h tT tI x)
      = transformTensor ι conj ⟨matMul g.R h.R, g.inv != h.inv, g.tr != h.tr⟩ tT tI x := by
  obtain ⟨hsT, hsI, hsTI⟩ := (sideCond_iff tT tI).1 hside
  have rT := fun g : PSym F => rotate_apply conj (fun i j => ι (g.R i j)) (fun _ _ => hreal _) tT hsT
  have rI := fun g : PSym F => rotate_apply conj (fun i j => ι (g.R i j)) (fun _ _ => hreal _) tI hsI
  have iT := Transform.apply_apply conj hinv tT hsT
  have iI := Transform.apply_apply conj hinv tI hsI
  have cTI := Transform.apply_comm conj tT tI hsTI
  unfold transformTensor
  simp only [map_matMul ι, ← rotate_mul]
  -- rotation commutes with both Transforms (rT, rI), each is an involution (iT, iI), they commute (cTI);
  -- the 16 cases of the four flags are then Boolean bookkeeping
  cases g.inv <;> cases g.tr <;> cases h.inv <;> cases h.tr <;>
    simp only [if_true, if_false, Bool.false_eq_true, bne_self_eq_false, Bool.bne_false, Bool.bne_true,
      Bool.not_false, rT, rI, iT, iI, cTI]

end TT

end WB.C09
