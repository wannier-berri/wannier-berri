/-
  C31 helper lemmas: `find_shells` / `check_B1` - what holds whenever the function returns.
-/
import WB.Model.C31
import Mathlib.Algebra.Order.BigOperators.Group.List
import Mathlib.Algebra.Order.Field.Rat

namespace WB.C31

/-! ### the loop: a returned weight list passed the guard of `check_B1` on the selected shells -/

theorem checkB1_spec {kernel : List Nat → Option (List Rat)} {M : Nat → Fin 3 → Fin 3 → Rat} {tol : Rat} {sel : List Nat}
    {acc b1 : Bool} {w : Option (List Rat)} (h : checkB1 kernel M tol sel = (acc, b1, w)) :
    (b1 = true → acc = true ∧ ∃ ws, w = some ws ∧ kernel sel = some ws ∧ resid2 M sel ws ≤ tol * tol) ∧
    (b1 = false → w = none) := by
  unfold checkB1 at h
  split at h
  · simp only [Prod.mk.injEq] at h
    obtain ⟨-, rfl, rfl⟩ := h
    simp
  · rename_i ws hk
    split at h <;> simp only [Prod.mk.injEq] at h <;> obtain ⟨rfl, rfl, rfl⟩ := h
    · simp
    · rename_i hle
      exact ⟨fun _ => ⟨rfl, ws, rfl, hk, not_lt.1 hle⟩, by simp⟩

/-- the loop started with `weights = None`: if it ends with a weight list, that list is the kernel's answer for the
    final selection and passed the guard `‖Σ_s w_s M_s − 1‖_F ≤ tol` -/
theorem shellLoop_spec (par : List Nat → Nat → Bool) (kernel : List Nat → Option (List Rat))
    (M : Nat → Fin 3 → Fin 3 → Rat) (tol : Rat) :
    ∀ (cands sel : List Nat) (sel' : List Nat) (ws : List Rat),
      shellLoop par kernel M tol cands sel none = (sel', some ws) →
      kernel sel' = some ws ∧ resid2 M sel' ws ≤ tol * tol
  | [], sel, sel', ws, h => by simp [shellLoop] at h
  | k :: rest, sel, sel', ws, h => by
    unfold shellLoop at h
    split at h
    · exact shellLoop_spec par kernel M tol rest sel sel' ws h
    · split at h
      rename_i acc b1 w' hc
      cases b1 with
      | true =>
        simp only [↓reduceIte, Prod.mk.injEq] at h
        obtain ⟨rfl, ws', rfl, hk, hr⟩ := (checkB1_spec hc).1 rfl
        obtain ⟨rfl, hws⟩ := h
        obtain rfl := Option.some.inj hws
        exact ⟨hk, hr⟩
      | false =>
        simp only [Bool.false_eq_true, ↓reduceIte] at h
        obtain rfl := (checkB1_spec hc).2 rfl
        exact shellLoop_spec par kernel M tol rest _ sel' ws h

/-! ### residual: every entry of `check_eye − 1` is within the tolerance -/

theorem entry_sq_le_resid2 (M : Nat → Fin 3 → Fin 3 → Rat) (sel : List Nat) (ws : List Rat) (a c : Fin 3) :
    (checkEye M sel ws a c - delta3 a c) * (checkEye M sel ws a c - delta3 a c) ≤ resid2 M sel ws := by
  have hfin : ∀ x : Fin 3, x ∈ fin3 := by decide
  apply List.single_le_sum
  · intro x hx
    simp only [List.mem_flatMap, List.mem_map] at hx
    obtain ⟨_, _, _, _, rfl⟩ := hx
    exact mul_self_nonneg _
  · exact List.mem_flatMap.2 ⟨a, hfin a, List.mem_map.2 ⟨c, hfin c, rfl⟩⟩

end WB.C31
