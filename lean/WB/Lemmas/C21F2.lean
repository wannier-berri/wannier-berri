/-
  C21 helper lemmas, f shell.  In the integer basis: linear independence of the seven cubics, hence composition and
  identity for `rotG`; parity.  Then the code's normalised orbitals `f_i = g_i / n_i`,
  `n = (2√15, 2√10, 2√10, 2, 1, 2√6, 2√6)`: `rotF j i = n_j · rotG j i / n_i`, independence, and the addition theorem for l = 3.
-/
import WB.Lemmas.C21F
import WB.Lemmas.C21H
import Mathlib.Tactic.NormNum
import Mathlib.Tactic.LinearCombination

namespace WB.C21

variable {K : Type} [Field K] [CharZero K]

theorem gFun_indep (c : Fin 7 → K) (h : ∀ v : V3 K, ∑ j, gFun j v * c j = 0) : ∀ j, c j = 0 := by
  have e (x y z : K) := h ![x, y, z]
  simp only [← sum7_eq_sum, sum7, gFun_eq, Fin.coe_ofNat_eq_mod, Nat.reduceMod, Matrix.cons_val_zero,
    Matrix.cons_val_one, Matrix.cons_val_two, Matrix.head_cons, Matrix.tail_cons] at e
  have c0 : c 0 = 0 := by linear_combination e 0 0 1 / 2
  have c1 : c 1 = 0 := by linear_combination (e 1 0 1 + e 1 0 (-1) - 2 * e 1 0 0) / 8
  have c5 : c 5 = 0 := by linear_combination e 1 0 0 + c1
  have c3 : c 3 = 0 := by linear_combination e 1 0 1 + c0 - 3 * c1 - c5
  have c2 : c 2 = 0 := by linear_combination (-e 1 1 0 - 2 * e 0 1 0) / 4 - c1 / 2 - c5 / 2
  have c6 : c 6 = 0 := by linear_combination -e 0 1 0 - c2
  have c4 : c 4 = 0 := by linear_combination e 1 1 1 + 4 * c0 - 2 * c1 - 2 * c2 + 2 * c5 - 2 * c6
  intro j; fin_cases j <;> assumption

theorem rotG_comp (S1 S2 : M3 K) (h1 : Orth3 S1) (h2 : Orth3 S2) (l i : Fin 7) :
    rotG (mulM3 S2 S1) l i = sum7 (fun j => rotG S1 l j * rotG S2 j i) :=
  (subst_comp (K := K) gFun gFun gFun gFun_indep (mulVec3 S1) (mulVec3 S2) (rotG S1) (rotG S2) (rotG (mulM3 S2 S1))
    (fun j x => (gFun_expand S1 h1 j x).trans (sum7_eq_sum _))
    (fun i x => (gFun_expand S2 h2 i x).trans (sum7_eq_sum _))
    (fun i x => by rw [← mulVec3_mul]; exact (gFun_expand _ (h1.mul h2) i x).trans (sum7_eq_sum _)) l i).trans
    (sum7_eq_sum _).symm

theorem rotG_one (j i : Fin 7) : rotG (one3 : M3 K) j i = if j = i then 1 else 0 :=
  subst_identity (K := K) gFun gFun_indep (rotG one3) (fun i x =>
    ((congrArg (gFun i) (mulVec3_one x)).symm.trans (gFun_expand one3 Orth3.one i x)).trans (sum7_eq_sum _)) j i

omit [CharZero K] in
theorem substCub_neg (S : M3 K) : ∀ q : Cub K,
    substCub q (fun a c => -S a c) = fun b d f => -substCub q S b d f
  | [] => by funext b d f; simp [substCub]
  | m :: q => by funext b d f; rw [substCub_cons, substCub_cons, substCub_neg S q]; ring

omit [CharZero K] in
theorem rotG_neg (S : M3 K) (j i : Fin 7) : rotG (fun a c => -S a c) j i = -rotG S j i := by
  fin_cases j <;>
    simp only [rotG, substCub_neg, coefZZZ, coefXZZ, coefYZZ, coefZXX, coefXYZ, coefXXX, coefYYY] <;> ring

variable {r15 r10 r6 : K}

/-- `r15 = √15`, `r10 = √10`, `r6 = √6` -/
structure FConst (r15 r10 r6 : K) : Prop where
  h15 : r15 * r15 = 15
  h10 : r10 * r10 = 10
  h6 : r6 * r6 = 6

theorem nF_ne (h : FConst r15 r10 r6) (i : Fin 7) : nF r15 r10 r6 i ≠ 0 := by
  have a : r15 ≠ 0 := mul_self_ne_zero.1 (by rw [h.h15]; norm_num)
  have b : r10 ≠ 0 := mul_self_ne_zero.1 (by rw [h.h10]; norm_num)
  have c : r6 ≠ 0 := mul_self_ne_zero.1 (by rw [h.h6]; norm_num)
  have two : (2 : K) ≠ 0 := by norm_num
  fin_cases i <;> simp [nF] <;> assumption

/-- weights `w_j = 1/n_j²` -/
def wF (j : Fin 7) : K :=
  match j.val with
  | 0 => 1 / 60
  | 1 => 1 / 40
  | 2 => 1 / 40
  | 3 => 1 / 4
  | 4 => 1
  | 5 => 1 / 24
  | _ => 1 / 24

/-- addition theorem for l = 3 (a Legendre polynomial in `u·v`) -/
theorem gFun_kernel (u v : V3 K) :
    sum7 (fun j => wF j * gFun j u * gFun j v)
      = dotV u v * dotV u v * dotV u v / 6 - dotV u v * dotV u u * dotV v v / 10 := by
  simp only [sum7, wF, gFun_eq, dotV, Fin.coe_ofNat_eq_mod, Nat.reduceMod]
  ring

theorem wF_eq (h : FConst r15 r10 r6) (i : Fin 7) : wF i = 1 / (nF r15 r10 r6 i * nF r15 r10 r6 i) := by
  fin_cases i <;> simp only [nF, wF] <;> congr 1
  · linear_combination -4 * h.h15
  · linear_combination -4 * h.h10
  · linear_combination -4 * h.h10
  · norm_num
  · norm_num
  · linear_combination -4 * h.h6
  · linear_combination -4 * h.h6

omit [CharZero K] in
theorem substCub_map_div (n : K) (S : M3 K) (b d f : Fin 3) : ∀ q : Cub K,
    substCub (q.map (fun m => (m.1 / n, m.2))) S b d f = substCub q S b d f / n
  | [] => by simp [substCub]
  | m :: q => by rw [List.map_cons, substCub_cons, substCub_cons, substCub_map_div n S b d f q]; ring

omit [CharZero K] in
theorem evalCub_map_div (n : K) (v : V3 K) : ∀ q : Cub K,
    evalCub (q.map (fun m => (m.1 / n, m.2))) v = evalCub q v / n
  | [] => by simp [evalCub]
  | m :: q => by rw [List.map_cons, evalCub_cons, evalCub_cons, evalCub_map_div n v q]; ring

omit [CharZero K] in
theorem fFun_eq (i : Fin 7) (v : V3 K) : fFun r15 r10 r6 i v = gFun i v / nF r15 r10 r6 i :=
  evalCub_map_div _ v _

theorem rotF_eq (S : M3 K) (j i : Fin 7) :
    rotF r15 r10 r6 S j i = nF r15 r10 r6 j * rotG S j i / nF r15 r10 r6 i := by
  fin_cases j <;>
    simp only [rotF, rotG, nF, coefZZZ, coefXZZ, coefYZZ, coefZXX, coefXYZ, coefXXX, coefYYY, fCub,
      substCub_map_div] <;> ring

theorem fFun_indep (h : FConst r15 r10 r6) (c : Fin 7 → K)
    (hc : ∀ v : V3 K, ∑ j, fFun r15 r10 r6 j v * c j = 0) : ∀ j, c j = 0 := by
  intro j
  have := gFun_indep (fun j => c j / nF r15 r10 r6 j)
    (fun v => by simpa only [fFun_eq, div_mul_eq_mul_div, mul_div_assoc] using hc v) j
  exact (div_eq_zero_iff.1 this).resolve_right (nF_ne h j)

theorem fFun_kernel (h : FConst r15 r10 r6) (u v : V3 K) :
    ∑ j, fFun r15 r10 r6 j u * fFun r15 r10 r6 j v
      = dotV u v * dotV u v * dotV u v / 6 - dotV u v * dotV u u * dotV v v / 10 := by
  rw [← gFun_kernel, sum7_eq_sum]
  refine Finset.sum_congr rfl fun j _ => ?_
  rw [fFun_eq, fFun_eq, wF_eq h]; ring

end WB.C21
