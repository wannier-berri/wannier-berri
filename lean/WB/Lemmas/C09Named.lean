/-
  C09: the named operations.  Rodrigues' matrix about a unit vector is orthogonal with determinant 1, rotations about
  one axis compose by adding angles, and the tabulated `(cos, sin)(2π/n)` have order `n`.
-/
import WB.Lemmas.C09Alg
import Mathlib.Tactic.LinearCombination
import Mathlib.Tactic.NormNum

set_option linter.unusedSectionVars false

namespace WB.C09

section Rodrigues
variable {F : Type} [CommRing F]

def norm2 (u : Vec F) : F := u 0 * u 0 + u 1 * u 1 + u 2 * u 2

theorem crossMat_apply (u : Vec F) (i j : Fin 3) :
    crossMat u i j = if i = j then 0 else if j = i + 1 then - u (i + 2) else u (i + 1) := by
  fin_cases i <;> fin_cases j <;> rfl

theorem crossMat_antisymm (u : Vec F) (i j : Fin 3) : crossMat u j i = - crossMat u i j := by
  fin_cases i <;> fin_cases j <;> simp [crossMat_apply]

theorem crossMat_mul_self (u : Vec F) (i : Fin 3) : sum3 (fun k => crossMat u i k * u k) = 0 := by
  fin_cases i <;>
    (simp only [sum3, crossMat_apply, Fin.isValue, Fin.reduceEq, Fin.reduceAdd, reduceIte, Fin.zero_eta, Fin.mk_one,
      Fin.reduceFinMk]; ring)

theorem crossMat_sq (u : Vec F) (i j : Fin 3) :
    sum3 (fun k => crossMat u i k * crossMat u k j) = u i * u j - norm2 u * (if i = j then 1 else 0) := by
  fin_cases i <;> fin_cases j <;>
    (simp only [sum3, crossMat_apply, norm2, Fin.isValue, Fin.reduceEq, Fin.reduceAdd, reduceIte, Fin.zero_eta,
      Fin.mk_one, Fin.reduceFinMk]; ring)

/-- Multiply out `c·1 + (1-c)·uuᵀ + s·[u]×` with `uuᵀ·uuᵀ = |u|² uuᵀ`, `uuᵀ·[u]× = [u]×·uuᵀ = 0` and `crossMat_sq`
    (`u` need not be a unit vector). -/
theorem rodrigues_mul_gen (c1 s1 c2 s2 : F) (u : Vec F) (i j : Fin 3) :
    matMul (rodrigues c1 s1 u) (rodrigues c2 s2 u) i j
      = (c1 * c2 - s1 * s2 * norm2 u) * (if i = j then 1 else 0)
        + (c1 * (1 - c2) + (1 - c1) * c2 + (1 - c1) * (1 - c2) * norm2 u + s1 * s2) * (u i * u j)
        + (c1 * s2 + s1 * c2) * crossMat u i j := by
  have e1 := sum3_ite_left i fun k => if k = j then (1 : F) else 0
  have e2 := sum3_ite_left i u
  have e3 := sum3_ite_left i fun k => crossMat u k j
  have e4 := sum3_ite_right j u
  have e5 := sum3_ite_right j fun k => crossMat u i k
  have e6 := crossMat_mul_self u i
  have e7 := crossMat_mul_self u j
  have e8 := crossMat_sq u i j
  simp only [crossMat_antisymm u _ j] at e7
  simp only [sum3] at e1 e2 e3 e4 e5 e6 e7 e8
  simp only [matMul, rodrigues, sum3, norm2] at e8 ⊢
  linear_combination (c1 * c2) * e1 + (c1 * (1 - c2) * u j) * e2 + (c1 * s2) * e3 + ((1 - c1) * c2 * u i) * e4
    + (s1 * c2) * e5 + (s1 * (1 - c2) * u j) * e6 - ((1 - c1) * s2 * u i) * e7 + (s1 * s2) * e8

theorem rodrigues_mul (c1 s1 c2 s2 : F) (u : Vec F) (hu : norm2 u = 1) :
    matMul (rodrigues c1 s1 u) (rodrigues c2 s2 u) = rodrigues (c1 * c2 - s1 * s2) (s1 * c2 + c1 * s2) u := by
  funext i j
  rw [rodrigues_mul_gen, hu]
  simp only [rodrigues]
  ring

theorem rodrigues_one (u : Vec F) : rodrigues 1 0 u = matId := by
  funext i j
  simp [rodrigues, matId]

theorem rodrigues_transpose (c s : F) (u : Vec F) : matT (rodrigues c s u) = rodrigues c (-s) u := by
  funext i j
  simp only [matT, rodrigues, crossMat_antisymm u i j, eq_comm (a := j)]
  ring

theorem rodrigues_orth (c s : F) (u : Vec F) (hu : norm2 u = 1) (hcs : c * c + s * s = 1) :
    matMul (matT (rodrigues c s u)) (rodrigues c s u) = matId := by
  rw [rodrigues_transpose, rodrigues_mul _ _ _ _ u hu]
  have h1 : c * c - -s * s = 1 := by linear_combination hcs
  have h2 : -s * c + c * s = 0 := by ring
  rw [h1, h2, rodrigues_one]

theorem rodrigues_det_gen (c s : F) (u : Vec F) :
    det3 (rodrigues c s u) = (c + (1 - c) * norm2 u) * (c * c + s * s * norm2 u) := by
  simp only [det3, rodrigues, crossMat_apply, norm2, Fin.isValue, Fin.reduceEq, Fin.reduceAdd, reduceIte]
  ring

theorem rodrigues_det (c s : F) (u : Vec F) (hu : norm2 u = 1) (hcs : c * c + s * s = 1) :
    det3 (rodrigues c s u) = 1 := by
  rw [rodrigues_det_gen, hu]
  linear_combination hcs

/-- `n`-fold product -/
def matPow (A : Mat F) : Nat → Mat F
  | 0 => matId
  | k + 1 => matMul A (matPow A k)

/-- powers of `(cos, sin)` under angle addition -/
def angPow (c s : F) : Nat → F × F
  | 0 => (1, 0)
  | k + 1 => (c * (angPow c s k).1 - s * (angPow c s k).2, s * (angPow c s k).1 + c * (angPow c s k).2)

theorem angPow_add (c s : F) (m n : Nat) : angPow c s (m + n) =
    ((angPow c s m).1 * (angPow c s n).1 - (angPow c s m).2 * (angPow c s n).2,
      (angPow c s m).2 * (angPow c s n).1 + (angPow c s m).1 * (angPow c s n).2) := by
  induction m with
  | zero => simp [angPow]
  | succ m ih => rw [Nat.add_right_comm, angPow, ih]; simp only [angPow]; ext <;> ring

theorem angPow_three (c s : F) (h : c * c + s * s = 1) :
    angPow c s 3 = (c * (4 * c * c - 3), s * (4 * c * c - 1)) := by
  simp only [angPow]
  ext
  · linear_combination (-3 * c) * h
  · linear_combination (-s) * h

theorem matPow_rodrigues (c s : F) (u : Vec F) (hu : norm2 u = 1) :
    ∀ k, matPow (rodrigues c s u) k = rodrigues (angPow c s k).1 (angPow c s k).2 u
  | 0 => (rodrigues_one u).symm
  | k + 1 => by
    show matMul (rodrigues c s u) (matPow (rodrigues c s u) k) = _
    rw [matPow_rodrigues c s u hu k, rodrigues_mul _ _ _ _ u hu]
    rfl

end Rodrigues

section Field
variable {F : Type} [Field F] [LinearOrder F] [IsStrictOrderedRing F]

theorem cosSin_spec (s3 : F) (h3 : s3 * s3 = 3) (n : Nat) (c s : F) (h : cosSin s3 n = some (c, s)) :
    c * c + s * s = 1 ∧ angPow c s n = (1, 0) := by
  have hc : ∀ x : F, x = 1 / (1 + 1) ∨ x = -(1 / (1 + 1)) → x * x + s3 / (1 + 1) * (s3 / (1 + 1)) = 1 := by
    rintro x (rfl | rfl) <;> linear_combination (1 / 4 : F) * h3
  unfold cosSin at h
  split at h <;> cases h
  · simp [angPow]
  · simp [angPow]
  · refine ⟨hc _ (.inr rfl), ?_⟩
    rw [angPow_three _ _ (hc _ (.inr rfl))]
    ext <;> ring
  · simp [angPow]
  -- 2π/6: three steps reach (-1, 0)
  · refine ⟨hc _ (.inl rfl), ?_⟩
    rw [angPow_add _ _ 3 3, angPow_three _ _ (hc _ (.inl rfl))]
    ext <;> ring

theorem axisUnit_spec (s3 : F) (h3 : s3 * s3 = 3) (ax : List Int) (u : Vec F) (h : axisUnit s3 ax = some u) :
    norm2 u = 1 := by
  -- the square of the sign of a component `0, ±1` is its absolute value
  have sq : ∀ z : Int, z.natAbs ≤ 1 → (if z = 0 then (0 : F) else if z > 0 then 1 else -1) *
      (if z = 0 then (0 : F) else if z > 0 then 1 else -1) = z.natAbs := by
    intro z hz
    rcases (by omega : z = 0 ∨ z = 1 ∨ z = -1) with rfl | rfl | rfl <;> simp
  unfold axisUnit at h
  split at h
  · rename_i a b c
    simp only at h
    split at h
    · rename_i hsum
      cases h
      simp only [norm2, List.getD_cons_zero, List.getD_cons_succ, Fin.val_zero, Fin.val_one, Fin.val_two,
        sq a (by omega), sq b (by omega), sq c (by omega)]
      exact_mod_cast hsum
    · split at h
      · rename_i h1
        cases h
        simp only [norm2, List.getD_cons_zero, List.getD_cons_succ, Fin.val_zero, Fin.val_one, Fin.val_two,
          mul_mul_mul_comm _ (s3 / _), sq a h1.1.le, sq b h1.2.1.le, sq c h1.2.2.le, h1.1, h1.2.1, h1.2.2]
        linear_combination (1 / 3 : F) * h3
      · cases h
  · cases h

/-- `unitVec` of the model (there over `Rat` only), over any field -/
def unitV (i : Fin 3) : Vec F := fun j => if i = j then 1 else 0

theorem axisUnit_unit (s3 : F) (i : Fin 3) :
    axisUnit s3 ([[1, 0, 0], [0, 1, 0], [0, 0, 1]].getD i.val []) = some (unitV i) := by
  fin_cases i <;> exact congrArg some (funext fun j => by fin_cases j <;> rfl)

theorem rot_full (s3 : F) (n : Nat) (ax : List Int) (c s : F) (u : Vec F) (h1 : cosSin s3 n = some (c, s))
    (h2 : axisUnit s3 ax = some u) :
    (rotationOp s3 n ax).map (fun g => (g.full, g.tr)) = some (rodrigues c s u, false) := by
  unfold rotationOp; rw [h1, h2]; simp [PSym.full_mk', PSym.mk'_tr]

theorem mir_full (s3 : F) (ax : List Int) (u : Vec F) (h2 : axisUnit s3 ax = some u)
    (hdet : ¬ det3 (rodrigues (-1 : F) 0 u) < 0) :
    (mirrorOp s3 ax).map (fun g => (g.full, g.tr)) = some (matScale (rodrigues (-1) 0 u) (-1), false) := by
  unfold mirrorOp rotationOp
  have : cosSin s3 2 = some ((-1 : F), 0) := rfl
  rw [this, h2]
  simp [PSym.full_mk', PSym.mk'_tr, PSym.mk'_R, hdet, sgn, matScale_one]

theorem norm2_unitV (i : Fin 3) : norm2 (unitV i : Vec F) = 1 :=
  (sum3_ite_left i (unitV i)).trans (if_pos rfl)

theorem c2_det_nonneg (i : Fin 3) : ¬ det3 (rodrigues (-1 : F) 0 (unitV i)) < 0 := by
  rw [rodrigues_det _ _ _ (norm2_unitV i) (by norm_num)]; exact not_lt.mpr zero_le_one

/-- the form in which `docFull` writes the documented matrices -/
theorem eq_table (M : Mat F) (a b c d e f g h k : F) (h00 : M 0 0 = a) (h01 : M 0 1 = b) (h02 : M 0 2 = c)
    (h10 : M 1 0 = d) (h11 : M 1 1 = e) (h12 : M 1 2 = f) (h20 : M 2 0 = g) (h21 : M 2 1 = h) (h22 : M 2 2 = k) :
    M = fun i j => [[a, b, c], [d, e, f], [g, h, k]].getD i.val [] |>.getD j.val 0 := by
  funext i j; fin_cases i <;> fin_cases j <;> assumption

theorem rodrigues_x (c s : F) : rodrigues c s (unitV 0) =
    fun i j => [[1, 0, 0], [0, c, -s], [0, s, c]].getD i.val [] |>.getD j.val 0 := by
  apply eq_table <;> simp [rodrigues, crossMat, unitV]

theorem rodrigues_y (c s : F) : rodrigues c s (unitV 1) =
    fun i j => [[c, 0, s], [0, 1, 0], [-s, 0, c]].getD i.val [] |>.getD j.val 0 := by
  apply eq_table <;> simp [rodrigues, crossMat, unitV]

theorem rodrigues_z (c s : F) : rodrigues c s (unitV 2) =
    fun i j => [[c, -s, 0], [s, c, 0], [0, 0, 1]].getD i.val [] |>.getD j.val 0 := by
  apply eq_table <;> simp [rodrigues, crossMat, unitV]

theorem rodrigues_two (k : Fin 3) :
    rodrigues (-1 : F) 0 (unitV k) = fun i j => if i = j then (if i = k then 1 else -1) else 0 := by
  funext i j
  simp only [rodrigues, unitV, zero_mul, add_zero, eq_comm (a := k)]
  split_ifs <;> simp_all

theorem mirror_unitV (k : Fin 3) :
    matScale (rodrigues (-1 : F) 0 (unitV k)) (-1) = fun i j => if i = j then (if i = k then -1 else 1) else 0 := by
  rw [rodrigues_two]; funext i j; simp only [matScale]; split_ifs <;> simp

theorem productOps_full (l : List (PSym F)) :
    (productOps l).full = l.foldr (fun op M => matMul op.full M) matId ∧
      (productOps l).tr = l.foldr (fun op t => op.tr != t) false := by
  induction l with
  | nil => exact ⟨PSym.identity_full, rfl⟩
  | cons a t ih => exact ⟨(PSym.full_mul a _).trans (congrArg _ ih.1), congrArg (a.tr != ·) ih.2⟩

end Field

end WB.C09
