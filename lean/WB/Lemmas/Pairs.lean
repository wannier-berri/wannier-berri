/-
  Helper lemmas on `isCut` and on `pairs` (consecutive pairs of a strictly increasing list of naturals).
-/
import WB.Model.C15
import Mathlib.Data.List.Basic
import Mathlib.Data.Nat.Basic
import Mathlib.Order.Basic

namespace WB.C15

theorem isCut_iff (E : Nat → Rat) (th : Rat) (n i : Nat) :
    isCut E th n i = true ↔ 0 < i ∧ i < n ∧ E i - E (i - 1) > th := by
  simp only [isCut, Bool.and_eq_true, decide_eq_true_eq, and_assoc]

theorem pairs_mem_consecutive :
    ∀ (l : List Nat), l.Pairwise (· < ·) → ∀ a b, (a, b) ∈ pairs l →
      a ∈ l ∧ b ∈ l ∧ a < b ∧ ∀ c ∈ l, ¬ (a < c ∧ c < b)
  | [], _, a, b, h => by simp [pairs] at h
  | [x], _, a, b, h => by simp [pairs] at h
  | x :: y :: rest, hs, a, b, h => by
    obtain ⟨hx, hs'⟩ := List.pairwise_cons.mp hs
    rcases List.mem_cons.mp h with h | h
    · obtain ⟨rfl, rfl⟩ := Prod.mk.inj h
      refine ⟨List.mem_cons_self, List.mem_cons_of_mem _ List.mem_cons_self, hx b List.mem_cons_self, ?_⟩
      rintro c hc ⟨h1, h2⟩
      rcases List.mem_cons.mp hc with rfl | hc
      · exact lt_irrefl _ h1
      rcases List.mem_cons.mp hc with rfl | hc
      · exact lt_irrefl _ h2
      · exact lt_asymm h2 ((List.pairwise_cons.mp hs').1 c hc)
    · obtain ⟨ha, hb, hab, hno⟩ := pairs_mem_consecutive (y :: rest) hs' a b h
      refine ⟨List.mem_cons_of_mem _ ha, List.mem_cons_of_mem _ hb, hab, ?_⟩
      rintro c hc hcab
      rcases List.mem_cons.mp hc with rfl | hc
      · exact lt_asymm hcab.1 (hx a ha)
      · exact hno c hc hcab

theorem pairs_cover :
    ∀ (l : List Nat), l.Pairwise (· < ·) → ∀ a ∈ l, ∀ c ∈ l, ∀ j, a ≤ j → j < c →
      ∃ ab ∈ pairs l, ab.1 ≤ j ∧ j < ab.2
  | [], _, a, ha, _, _, _, _, _ => by simp at ha
  | [x], _, a, ha, c, hc, j, h1, h2 => by
    rw [List.mem_singleton] at ha hc
    subst ha hc
    exact (lt_irrefl _ (lt_of_le_of_lt h1 h2)).elim
  | x :: y :: rest, hs, a, ha, c, hc, j, h1, h2 => by
    have hxa : x ≤ a := by
      rcases List.mem_cons.mp ha with rfl | ha
      exacts [le_rfl, le_of_lt ((List.pairwise_cons.mp hs).1 a ha)]
    have hxj := le_trans hxa h1
    by_cases hj : j < y
    · exact ⟨(x, y), List.mem_cons_self, hxj, hj⟩
    · obtain ⟨ab, hab, h3⟩ := pairs_cover (y :: rest) (List.pairwise_cons.mp hs).2 y List.mem_cons_self c
        ((List.mem_cons.mp hc).resolve_left (lt_of_le_of_lt hxj h2).ne') j (not_lt.1 hj) h2
      exact ⟨ab, List.mem_cons_of_mem _ hab, h3⟩

theorem pairs_disjoint :
    ∀ (l : List Nat), l.Pairwise (· < ·) → ∀ ab ∈ pairs l, ∀ cd ∈ pairs l, ∀ j,
      ab.1 ≤ j → j < ab.2 → cd.1 ≤ j → j < cd.2 → ab = cd := by
  intro l hs ab hab cd hcd j h1 h2 h3 h4
  obtain ⟨a, b⟩ := ab
  obtain ⟨c, d⟩ := cd
  obtain ⟨ha, hb, _, hno1⟩ := pairs_mem_consecutive l hs a b hab
  obtain ⟨hc, hd, _, hno2⟩ := pairs_mem_consecutive l hs c d hcd
  simp only at h1 h2 h3 h4
  have had : a < d := lt_of_le_of_lt h1 h4
  have hcb : c < b := lt_of_le_of_lt h3 h2
  -- neither interval has a border of the other strictly inside
  have e1 : a = c := le_antisymm (not_lt.1 fun h => hno2 a ha ⟨h, had⟩) (not_lt.1 fun h => hno1 c hc ⟨h, hcb⟩)
  have e2 : b = d := le_antisymm (not_lt.1 fun h => hno1 d hd ⟨had, h⟩) (not_lt.1 fun h => hno2 b hb ⟨hcb, h⟩)
  rw [e1, e2]

end WB.C15
