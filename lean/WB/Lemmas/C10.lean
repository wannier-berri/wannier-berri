/-
  C10 helper lemmas (bookkeeping of run(): result_all = Σ factor · result after every iteration).

  Between two updates the K-point list `ps` is compared with `as`, the same list at the last update
  (`Refined as ps`): refinement events keep that relation (`refined_refPts`) and touch nothing else (`refStep_eq`),
  process + update turns it into `Synced` again (`synced_iteration`).
-/
import WB.Model.C10
import Mathlib.Tactic.Ring
import Mathlib.Tactic.LinearCombination

namespace WB.C10

variable {K : Type}

/-- what process() does to one K-point -/
def procPt [Mul K] [Zero K] (mode : Mode) (p : KP K) : KP K := if p.ev then p else (setResult mode p).1

/-- Σ over the not yet evaluated points of r · f  (= result_sum of process()) -/
def unevSum [Mul K] [Add K] [Zero K] : List (KP K) → K
  | [] => 0
  | p :: ps => if p.ev then unevSum ps else p.r * p.f + unevSum ps

section basic
variable [Mul K] [Zero K]

theorem setResult_snd (mode : Mode) (p : KP K) : (setResult mode p).2 = p.r * p.f := by
  simp [setResult, getResult]

theorem processPts_eq [Add K] (mode : Mode) (ps : List (KP K)) :
    processPts mode ps = (ps.map (procPt mode), unevSum ps) := by
  induction ps with
  | nil => rfl
  | cons p ps ih =>
    unfold processPts
    rw [ih]
    by_cases hev : p.ev = true
    · simp [hev, procPt, unevSum]
    · simp [hev, procPt, unevSum, setResult_snd]

theorem setResult_fst_fields (mode : Mode) (p : KP K) :
    (setResult mode p).1.f = p.f ∧ (setResult mode p).1.r = p.r ∧ (setResult mode p).1.ev = true := by
  cases mode
  · exact ⟨rfl, rfl, rfl⟩
  · simp only [setResult]; split <;> exact ⟨rfl, rfl, rfl⟩
  · exact ⟨rfl, rfl, rfl⟩

theorem setResult_fst_get (mode : Mode) (hm : mode ≠ Mode.clear) (p : KP K) :
    getResult (setResult mode p).1 = some p.r := by
  cases mode with
  | memory => simp [setResult, getResult]
  | dump =>
    simp only [setResult]
    split
    · simp [getResult]
    · simp [getResult]
  | clear => exact absurd rfl hm

theorem procPt_of_ev (mode : Mode) {p : KP K} (h : p.ev = true) : procPt mode p = p := if_pos h

theorem procPt_f (mode : Mode) (p : KP K) : (procPt mode p).f = p.f := by
  unfold procPt; split
  · rfl
  · exact (setResult_fst_fields mode p).1

theorem procPt_r (mode : Mode) (p : KP K) : (procPt mode p).r = p.r := by
  unfold procPt; split
  · rfl
  · exact (setResult_fst_fields mode p).2.1

theorem procPt_ev (mode : Mode) (p : KP K) : (procPt mode p).ev = true := by
  unfold procPt; split
  · assumption
  · exact (setResult_fst_fields mode p).2.2

theorem procPt_get (mode : Mode) (hm : mode ≠ Mode.clear) (p : KP K)
    (h : p.ev = true → getResult p = some p.r) : getResult (procPt mode p) = some (procPt mode p).r := by
  rw [procPt_r]
  unfold procPt; split
  · rename_i hev; exact h hev
  · exact setResult_fst_get mode hm p

theorem map_procPt_all_ev (mode : Mode) (ps : List (KP K)) (h : ∀ p ∈ ps, p.ev = true) :
    ps.map (procPt mode) = ps := by
  rw [← List.map_id ps, List.map_map]
  exact List.map_congr_left fun p hp => procPt_of_ev mode (h p hp)

variable [Add K]

theorem unevSum_all_ev (ps : List (KP K)) (h : ∀ p ∈ ps, p.ev = true) : unevSum ps = 0 := by
  induction ps with
  | nil => rfl
  | cons p ps ih =>
    simp only [unevSum, h p (List.mem_cons_self ..), if_true]
    exact ih fun q hq => h q (List.mem_cons_of_mem _ hq)

theorem corrSum_nil [Sub K] (keep : K → Bool) (ps : List (KP K)) : corrSum keep ps [] = some 0 := by
  cases ps <;> rfl

theorem iterate_pts [Sub K] (keep : K → Bool) (s : State K) :
    (iterate keep s).pts = s.pts.map (procPt s.mode) := by
  unfold iterate
  rw [processPts_eq]
  split
  · rfl
  · dsimp only
    split <;> rfl

theorem iterate_mode [Sub K] (keep : K → Bool) (s : State K) : (iterate keep s).mode = s.mode := by
  unfold iterate
  split
  · rfl
  · dsimp only
    split <;> rfl

theorem iterate_some [Sub K] (keep : K → Bool) {s : State K} {ra c : K} (h : s.resultAll = some ra)
    (hc : corrSum keep (s.pts.map (procPt s.mode)) s.factors = some c) :
    iterate keep s = { s with pts := s.pts.map (procPt s.mode), factors := (s.pts.map (procPt s.mode)).map (·.f),
                              resultAll := some (ra + unevSum s.pts + c) } := by
  unfold iterate
  rw [processPts_eq]
  dsimp only
  rw [h]
  dsimp only
  rw [hc]

end basic

/-- `ps` continues `as`: its evaluated points are those of `as`, in the same order and up to their weights, and
    every point behind them is new (not evaluated) -/
def Refined : List (KP K) → List (KP K) → Prop
  | [], [] => True
  | [], p :: ps => p.ev = false ∧ Refined [] ps
  | a :: as, p :: ps => ({ a with f := p.f } = p ∧ p.ev = true) ∧ Refined as ps
  | _ :: _, [] => False

theorem refined_nil_iff (ps : List (KP K)) : Refined [] ps ↔ ∀ p ∈ ps, p.ev = false := by
  induction ps with
  | nil => simp [Refined]
  | cons p ps ih => simp [Refined, ih]

theorem refined_self (ps : List (KP K)) (h : ∀ p ∈ ps, p.ev = true) : Refined ps ps := by
  induction ps with
  | nil => trivial
  | cons p ps ih => exact ⟨⟨rfl, h p (List.mem_cons_self ..)⟩, ih fun q hq => h q (List.mem_cons_of_mem _ hq)⟩

theorem zeroAt_eq_modify [Zero K] (i : Nat) (ps : List (KP K)) :
    zeroAt i ps = ps.modify i (fun p => { p with f := 0 }) := by
  induction ps generalizing i with
  | nil => cases i <;> rfl
  | cons p ps ih => cases i <;> [rfl; exact congrArg (p :: ·) (ih _)]

theorem addAt_eq_modify [Add K] (x : K) (i : Nat) (ps : List (KP K)) :
    addAt x i ps = ps.modify i (fun p => { p with f := p.f + x }) := by
  induction ps generalizing i with
  | nil => cases i <;> rfl
  | cons p ps ih => cases i <;> [rfl; exact congrArg (p :: ·) (ih _)]

theorem Refined.setWeight (w : KP K → K) {as ps : List (KP K)} (i : Nat) (h : Refined as ps) :
    Refined as (ps.modify i (fun p => { p with f := w p })) := by
  induction ps generalizing as i with
  | nil => cases i <;> exact h
  | cons p ps ih =>
    cases as <;> cases i
    · exact h
    · exact ⟨h.1, ih _ h.2⟩
    · exact ⟨⟨congrArg (fun q : KP K => { q with f := w p }) h.1.1, h.1.2⟩, h.2⟩
    · exact ⟨h.1, ih _ h.2⟩

theorem Refined.removeAt {as ps : List (KP K)} (j : Nat) {q : KP K} (h : Refined as ps) (hq : ps[j]? = some q)
    (hev : q.ev = false) : Refined as (removeAt j ps) := by
  induction ps generalizing as j with
  | nil => cases hq
  | cons p ps ih =>
    cases as <;> cases j
    · exact h.2
    · exact ⟨h.1, ih _ h.2 hq⟩
    · cases hq; rw [h.1.2] at hev; cases hev
    · exact ⟨h.1, ih _ h.2 hq⟩

theorem Refined.append {cs : List (KP K)} (hc : ∀ c ∈ cs, c.ev = false) {as ps : List (KP K)}
    (h : Refined as ps) : Refined as (ps ++ cs) := by
  induction ps generalizing as with
  | nil =>
    cases as with
    | nil => exact (refined_nil_iff cs).2 hc
    | cons => exact h.elim
  | cons p ps ih => cases as <;> exact ⟨h.1, ih h.2⟩

theorem Refined.stored {as ps : List (KP K)} (h : Refined as ps) (hst : ∀ a ∈ as, getResult a = some a.r) :
    ∀ p ∈ ps, p.ev = true → getResult p = some p.r := by
  intro p hp hev
  induction as generalizing ps with
  | nil => rw [(refined_nil_iff _).1 h p hp] at hev; cases hev
  | cons a as ih =>
    cases ps with
    | nil => cases hp
    | cons p0 ps =>
      rcases List.mem_cons.1 hp with rfl | hp
      · rw [← h.1.1]; exact hst a (List.mem_cons_self ..)
      · exact ih h.2 (fun x hx => hst x (List.mem_cons_of_mem _ hx)) hp

theorem Refined.length_eq {as ps : List (KP K)} (h : Refined as ps) (hev : ∀ p ∈ ps, p.ev = true) :
    as.length = ps.length := by
  induction as generalizing ps with
  | nil =>
    cases ps with
    | nil => rfl
    | cons p _ => have := h.1; rw [hev p (List.mem_cons_self ..)] at this; cases this
  | cons a as ih =>
    cases ps with
    | nil => exact h.elim
    | cons p ps => exact congrArg (· + 1) (ih h.2 fun q hq => hev q (List.mem_cons_of_mem _ hq))

theorem Refined.process [Mul K] [Add K] [Zero K] (mode : Mode) {as ps : List (KP K)} (h : Refined as ps) :
    Refined (as ++ (ps.map (procPt mode)).drop as.length) (ps.map (procPt mode)) := by
  induction as generalizing ps with
  | nil => exact refined_self _ (fun q hq => by obtain ⟨p, _, rfl⟩ := List.mem_map.1 hq; exact procPt_ev mode p)
  | cons a as ih =>
    cases ps with
    | nil => exact h.elim
    | cons p ps =>
      rw [List.map_cons, procPt_of_ev mode h.1.2, List.length_cons, List.drop_succ_cons]
      exact ⟨h.1, ih h.2⟩

section refine
variable [Add K] [Zero K] [Div K] [NatCast K]

/-- what a refinement event does to the K-point list -/
def refPts (ps : List (KP K)) : RefOp K → List (KP K)
  | RefOp.divide i children =>
    match ps[i]? with
    | some p =>
      if p.ev && !children.isEmpty then
        zeroAt i ps ++ children.map (fun r => KP.fresh r (p.f / (children.length : K)))
      else ps
    | none => ps
  | RefOp.merge i j =>
    match ps[i]?, ps[j]? with
    | some _, some q => if decide (i < j) && !q.ev then removeAt j (addAt q.f i ps) else ps
    | _, _ => ps

theorem refStep_eq (s : State K) (op : RefOp K) : refStep s op = { s with pts := refPts s.pts op } := by
  cases op with
  | divide i children =>
    simp only [refStep, refPts]
    cases s.pts[i]? with
    | none => rfl
    | some p => dsimp only; split <;> rfl
  | merge i j =>
    simp only [refStep, refPts]
    cases s.pts[i]? <;> cases s.pts[j]? <;> try rfl
    dsimp only; split <;> rfl

theorem foldl_refStep_eq (ops : List (RefOp K)) : ∀ (s : State K),
    ops.foldl refStep s = { s with pts := ops.foldl refPts s.pts } := by
  induction ops with
  | nil => intro s; rfl
  | cons op ops ih => intro s; rw [List.foldl_cons, refStep_eq, ih]; rfl

theorem refined_refPts {as ps : List (KP K)} (h : Refined as ps) (op : RefOp K) : Refined as (refPts ps op) := by
  cases op with
  | divide i children =>
    simp only [refPts]
    split
    · split
      · rw [zeroAt_eq_modify]
        exact (h.setWeight _ i).append (List.forall_mem_map.2 fun _ _ => rfl)
      · exact h
    · exact h
  | merge i j =>
    simp only [refPts]
    split
    · rename_i q _ hq
      split
      · rename_i hcond
        simp only [Bool.and_eq_true, Bool.not_eq_true', decide_eq_true_eq] at hcond
        rw [addAt_eq_modify]
        exact (h.setWeight _ i).removeAt j (by rw [List.getElem?_modify_ne _ _ (Nat.ne_of_lt hcond.1)]; exact hq)
          hcond.2
      · exact h
    · exact h

theorem refined_foldl_refPts {as : List (KP K)} (ops : List (RefOp K)) : ∀ {ps : List (KP K)}, Refined as ps →
    Refined as (ops.foldl refPts ps) := by
  induction ops with
  | nil => exact id
  | cons op ops ih => exact fun h => ih (refined_refPts h op)

end refine

/-- right after an update -/
structure Synced [Mul K] [Add K] [Zero K] (s : State K) : Prop where
  ok : s.err = false
  sum : s.resultAll = some (wsum s.pts)
  factors : s.factors = s.pts.map (·.f)
  stored : ∀ p ∈ s.pts, p.ev = true ∧ getResult p = some p.r

theorem start_unev (mode : Mode) (init : List (K × K)) : ∀ p ∈ (start mode init).pts, p.ev = false := by
  intro p hp
  obtain ⟨_, _, rfl⟩ := List.mem_map.1 hp
  rfl

section steps
variable [Field K]

theorem unevSum_eq_wsum (mode : Mode) (ps : List (KP K)) (h : ∀ p ∈ ps, p.ev = false) :
    unevSum ps = wsum (ps.map (procPt mode)) := by
  induction ps with
  | nil => rfl
  | cons p ps ih =>
    simp only [unevSum, h p (List.mem_cons_self ..), List.map_cons, wsum, procPt_f, procPt_r,
      ih fun q hq => h q (List.mem_cons_of_mem _ hq)]
    simp only [Bool.false_eq_true, if_false]
    ring

theorem update_identity (keep : K → Bool) (hk : ∀ d, keep d = false → d = 0) (mode : Mode)
    {as ps : List (KP K)} (h : Refined as ps) (hst : ∀ a ∈ as, getResult a = some a.r) :
    ∃ c, corrSum keep (ps.map (procPt mode)) (as.map (·.f)) = some c ∧
      wsum as + unevSum ps + c = wsum (ps.map (procPt mode)) := by
  induction as generalizing ps with
  | nil => exact ⟨0, corrSum_nil _ _, by rw [unevSum_eq_wsum mode ps ((refined_nil_iff ps).1 h)]; simp [wsum]⟩
  | cons a as ih =>
    cases ps with
    | nil => exact h.elim
    | cons p ps =>
      obtain ⟨c, hc, hsum⟩ := ih h.2 (fun x hx => hst x (List.mem_cons_of_mem _ hx))
      have hr : a.r = p.r := by rw [← h.1.1]
      have hget : getResult p = some p.r := by
        rw [← h.1.1]; exact hst a (List.mem_cons_self ..)
      simp only [List.map_cons, procPt_of_ev mode h.1.2, corrSum, hc, hget, wsum, unevSum, h.1.2, if_true, hr]
      refine ⟨p.r * (p.f - a.f) + c, ?_, by linear_combination hsum⟩
      split
      · rfl
      · rename_i hkeep
        rw [hk (p.f - a.f) (by simpa using hkeep), mul_zero, zero_add]

theorem eq_zero_of_keepNew_eq_false [DecidableEq K] (d : K) (h : keepNew d = false) : d = 0 := by
  simpa [keepNew] using h

theorem synced_iteration (keep : K → Bool) (hk : ∀ d, keep d = false → d = 0) {s : State K} (h : Synced s)
    (hm : s.mode ≠ Mode.clear) (ops : List (RefOp K)) : Synced (iteration keep s ops) := by
  -- during the refinement events the list continues the list of the last update, whose weights and sum the state
  -- still records
  have href : Refined s.pts (ops.foldl refPts s.pts) :=
    refined_foldl_refPts ops (refined_self _ fun p hp => (h.stored p hp).1)
  have hst : ∀ a ∈ s.pts, getResult a = some a.r := fun a ha => (h.stored a ha).2
  obtain ⟨c, hc, hsum⟩ := update_identity keep hk s.mode href hst
  unfold iteration
  rw [foldl_refStep_eq, iterate_some keep (s := { s with pts := ops.foldl refPts s.pts }) h.sum
    (by rw [h.factors]; exact hc)]
  refine ⟨h.ok, congrArg some hsum, rfl, ?_⟩
  intro p hp
  obtain ⟨p0, hp0, rfl⟩ := List.mem_map.1 hp
  exact ⟨procPt_ev _ _, procPt_get _ hm _ (href.stored hst p0 hp0)⟩

theorem iterate_start (keep : K → Bool) (mode : Mode) (init : List (K × K)) :
    iterate keep (start mode init) =
      { start mode init with pts := (start mode init).pts.map (procPt mode),
                             resultAll := some (unevSum (start mode init).pts) } := by
  unfold iterate
  rw [processPts_eq]
  rfl

theorem synced_first (keep : K → Bool) (mode : Mode) (hm : mode ≠ Mode.clear) (init : List (K × K)) :
    Synced (iterate keep (start mode init)) := by
  rw [iterate_start]
  refine ⟨rfl, congrArg some (unevSum_eq_wsum mode _ (start_unev mode init)), ?_, ?_⟩
  · simp [start, procPt_f, KP.fresh, Function.comp_def]
  · intro p hp
    obtain ⟨p0, hp0, rfl⟩ := List.mem_map.1 hp
    refine ⟨procPt_ev _ _, procPt_get _ hm _ ?_⟩
    intro hev; rw [start_unev mode init p0 hp0] at hev; cases hev

theorem runIters_snoc (keep : K → Bool) (mode : Mode) (init : List (K × K)) (iters : List (List (RefOp K)))
    (ops : List (RefOp K)) :
    runIters keep mode init (iters ++ [ops]) = iteration keep (runIters keep mode init iters) ops := by
  unfold runIters; rw [List.foldl_append]; rfl

theorem iteration_mode (keep : K → Bool) (s : State K) (ops : List (RefOp K)) :
    (iteration keep s ops).mode = s.mode := by
  unfold iteration; rw [iterate_mode, foldl_refStep_eq]

theorem iteration_pts (keep : K → Bool) (s : State K) (ops : List (RefOp K)) :
    (iteration keep s ops).pts = (ops.foldl refPts s.pts).map (procPt s.mode) := by
  unfold iteration; rw [iterate_pts, foldl_refStep_eq]

theorem foldl_iteration_pts (keep : K → Bool) (iters : List (List (RefOp K))) (s : State K) :
    (iters.foldl (iteration keep) s).pts =
      iters.foldl (fun ps ops => (ops.foldl refPts ps).map (procPt s.mode)) s.pts := by
  induction iters generalizing s with
  | nil => rfl
  | cons ops iters ih => rw [List.foldl_cons, ih, iteration_pts, iteration_mode]; rfl

/-- the K-point list evolves on its own: it does not depend on the update rule -/
theorem runIters_pts (keep : K → Bool) (mode : Mode) (init : List (K × K)) (iters : List (List (RefOp K))) :
    (runIters keep mode init iters).pts =
      iters.foldl (fun ps ops => (ops.foldl refPts ps).map (procPt mode)) ((start mode init).pts.map (procPt mode)) := by
  unfold runIters
  rw [foldl_iteration_pts, iterate_pts, iterate_mode]
  rfl

end steps

end WB.C10
