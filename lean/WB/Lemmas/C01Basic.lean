/-
  C01 — basic lemmas: list sums, `dedup`, an `Except` if-cascade, grid points, super cells, `minList`.
-/
import WB.Model.C01
import Mathlib.Data.List.Basic
import Mathlib.Data.List.Nodup
import Mathlib.Algebra.Order.Field.Rat
import Mathlib.Algebra.Field.Basic
import Mathlib.Algebra.CharZero.Defs
import Mathlib.Algebra.Star.Basic
import Mathlib.Tactic.Ring
import Mathlib.Tactic.Linarith
import Mathlib.Algebra.BigOperators.Group.List.Basic

namespace WB.C01

/-! ### sums

The model's `sumK` (stated with notation classes only, so that it runs at `GRat`) is `List.sum` in a field; its
lemmas are Mathlib's, restated so that they rewrite terms written with `sumK`. -/
section sums
variable {K : Type} [Field K]

theorem sumK_nil : sumK ([] : List K) = 0 := rfl
theorem sumK_cons (x : K) (l : List K) : sumK (x :: l) = x + sumK l := rfl

theorem sumK_eq_sum (l : List K) : sumK l = l.sum := rfl

theorem sumK_append (l₁ l₂ : List K) : sumK (l₁ ++ l₂) = sumK l₁ + sumK l₂ := List.sum_append

theorem sumK_perm {l₁ l₂ : List K} (h : l₁.Perm l₂) : sumK l₁ = sumK l₂ := h.sum_eq

theorem sumK_map_zero {α} (l : List α) : sumK (l.map fun _ => (0 : K)) = 0 := List.sum_map_zero

theorem sumK_map_add {α} (l : List α) (f g : α → K) :
    sumK (l.map fun x => f x + g x) = sumK (l.map f) + sumK (l.map g) := List.sum_map_add

theorem sumK_map_mul_left {α} (l : List α) (r : K) (f : α → K) :
    sumK (l.map fun x => r * f x) = r * sumK (l.map f) := List.sum_map_hom l f (AddMonoidHom.mulLeft r)

theorem sumK_map_congr {α} (l : List α) (f g : α → K) (h : ∀ x ∈ l, f x = g x) :
    sumK (l.map f) = sumK (l.map g) := by rw [List.map_congr_left h]

theorem sumK_map_const {α} (l : List α) (r : K) : sumK (l.map fun _ => r) = (l.length : K) * r := by
  rw [sumK_eq_sum, List.map_const', List.sum_replicate, nsmul_eq_mul]

theorem sumK_map_inv_length [CharZero K] {α} (l : List α) (hl : l ≠ []) :
    sumK (l.map fun _ => ((l.length : K))⁻¹) = 1 := by
  rw [sumK_map_const, mul_inv_cancel₀ (Nat.cast_ne_zero.2 (List.length_pos_iff.2 hl).ne')]

theorem sumK_flatMap {α β} (l : List α) (g : α → List β) (f : β → K) :
    sumK ((l.flatMap g).map f) = sumK (l.map fun a => sumK ((g a).map f)) := by
  induction l with
  | nil => rfl
  | cons x l ih => rw [List.flatMap_cons, List.map_append, sumK_append, ih]; rfl

theorem sumK_filter_split {α} (l : List α) (p : α → Bool) (f : α → K) :
    sumK (l.map f) = sumK ((l.filter p).map f) + sumK ((l.filter fun a => !p a).map f) := by
  rw [← sumK_append, ← List.map_append]
  exact sumK_perm ((List.filter_append_perm p l).map f).symm

theorem sumK_comm {α β} (l₁ : List α) (l₂ : List β) (f : α → β → K) :
    sumK (l₁.map fun a => sumK (l₂.map fun b => f a b)) = sumK (l₂.map fun b => sumK (l₁.map fun a => f a b)) := by
  induction l₁ with
  | nil => exact (sumK_map_zero l₂).symm
  | cons a l ih => rw [List.map_cons, sumK_cons, ih, ← sumK_map_add]; rfl

theorem sumK_single {α} [DecidableEq α] (l : List α) (hnd : l.Nodup) (x : α) (hx : x ∈ l) (g : α → K) :
    sumK (l.map fun R => if x = R then g R else 0) = g x := by
  rw [sumK_eq_sum, List.sum_map_eq_nsmul_single x _ fun R hR _ => if_neg (Ne.symm hR),
    List.count_eq_one_of_mem hnd hx, one_nsmul, if_pos rfl]

/-- regrouping by fibres: a sum over a duplicate-free list of keys, each weighted with the sum of the entries that
    carry that key, is the sum over the entries -/
theorem sumK_fibres {ι α} [DecidableEq α] (L : List α) (hnd : L.Nodup) (es : List ι) (key : ι → α)
    (hkey : ∀ e ∈ es, key e ∈ L) (f : α → K) (v : ι → K) :
    sumK (L.map fun x => f x * sumK ((es.filter fun e => key e = x).map v)) = sumK (es.map fun e => f (key e) * v e) := by
  induction es with
  | nil => exact (sumK_map_congr L _ _ fun x _ => mul_zero (f x)).trans (sumK_map_zero L)
  | cons e es ih =>
    rw [sumK_map_congr L _ (fun x => (if key e = x then f x * v e else 0)
        + f x * sumK ((es.filter fun e => key e = x).map v)),
      sumK_map_add, sumK_single L hnd (key e) (hkey e List.mem_cons_self) fun x => f x * v e,
      ih fun e' he' => hkey e' (List.mem_cons_of_mem _ he')]
    · rfl
    · intro x _
      rw [List.filter_cons]
      by_cases h : key e = x
      · rw [if_pos (decide_eq_true h), if_pos h, List.map_cons, sumK_cons, mul_add]
      · rw [if_neg fun hd => h (of_decide_eq_true hd), if_neg h, zero_add]

theorem star_sumK [StarRing K] (l : List K) : star (sumK l) = sumK (l.map star) :=
  map_list_sum (starAddEquiv (R := K)) l

end sums

/-! ### dedup -/
section dedup
variable {α : Type} [DecidableEq α]

theorem dedup_cons (x : α) (l : List α) :
    dedup (x :: l) = if x ∈ dedup l then dedup l else x :: dedup l := rfl

theorem mem_dedup (l : List α) (y : α) : y ∈ dedup l ↔ y ∈ l := by
  induction l with
  | nil => rfl
  | cons x l ih =>
    rw [dedup_cons, List.mem_cons, ← ih]
    split
    · next h => exact ⟨Or.inr, fun h' => h'.elim (fun e => e ▸ h) id⟩
    · exact List.mem_cons

theorem nodup_dedup (l : List α) : (dedup l).Nodup := by
  induction l with
  | nil => exact List.nodup_nil
  | cons x l ih =>
    rw [dedup_cons]
    split
    · exact ih
    · next h => exact List.nodup_cons.mpr ⟨h, ih⟩

theorem dedup_sublist (l : List α) : (dedup l).Sublist l := by
  induction l with
  | nil => exact List.Sublist.slnil
  | cons x l ih =>
    rw [dedup_cons]
    split
    · exact ih.cons x
    · exact ih.cons_cons x

/-- the duplicate test of `set_fft_q_to_R` : `len(set(l)) == len(l)` exactly when `l` has no duplicates -/
theorem nodup_of_length_dedup (l : List α) (h : (dedup l).length = l.length) : l.Nodup :=
  (dedup_sublist l).eq_of_length h ▸ nodup_dedup l

end dedup

theorem ite_error_eq_ok {ε α : Type} {c : Prop} [Decidable c] {e : ε} {x : Except ε α} {a : α}
    (h : (if c then .error e else x) = .ok a) : ¬c ∧ x = .ok a := by
  by_cases hc : c
  · rw [if_pos hc] at h; cases h
  · rw [if_neg hc] at h; exact ⟨hc, h⟩

/-! ### grid points and super cells -/

theorem nodup_box {α β} {l₁ l₂ l₃ : List α} (h₁ : l₁.Nodup) (h₂ : l₂.Nodup) (h₃ : l₃.Nodup)
    (f : α × α × α → β) (hf : Function.Injective f) :
    (l₁.flatMap fun i => l₂.flatMap fun j => l₃.map fun k => f (i, j, k)).Nodup := by
  have : (l₁.flatMap fun i => l₂.flatMap fun j => l₃.map fun k => f (i, j, k))
      = (List.product l₁ (List.product l₂ l₃)).map f := by
    unfold List.product
    simp only [List.map_flatMap, List.map_map]
    rfl
  rw [this]
  exact (h₁.product (h₂.product h₃)).map hf

theorem nodup_gridPoints (mp : Mesh) : (gridPoints mp).Nodup :=
  nodup_box List.nodup_range List.nodup_range List.nodup_range
    (fun t : Nat × Nat × Nat => ((t.1 : Int), (t.2.1 : Int), (t.2.2 : Int)))
    fun a b h => by
      simp only [Prod.mk.injEq, Int.natCast_inj] at h
      exact Prod.ext h.1 (Prod.ext h.2.1 h.2.2)

theorem mem_gridPoints (mp : Mesh) (c : Vec3) :
    c ∈ gridPoints mp ↔ (0 ≤ c.1 ∧ c.1 < mp.1) ∧ (0 ≤ c.2.1 ∧ c.2.1 < mp.2.1) ∧ (0 ≤ c.2.2 ∧ c.2.2 < mp.2.2) := by
  obtain ⟨c1, c2, c3⟩ := c
  simp only [gridPoints, List.mem_flatMap, List.mem_map, List.mem_range, Prod.mk.injEq]
  constructor
  · rintro ⟨i, hi, j, hj, k, hk, rfl, rfl, rfl⟩
    exact ⟨⟨Int.natCast_nonneg i, Int.ofNat_lt.2 hi⟩, ⟨Int.natCast_nonneg j, Int.ofNat_lt.2 hj⟩,
      Int.natCast_nonneg k, Int.ofNat_lt.2 hk⟩
  · rintro ⟨⟨h1, h2⟩, ⟨h3, h4⟩, h5, h6⟩
    exact ⟨c1.toNat, (Int.toNat_lt h1).2 h2, c2.toNat, (Int.toNat_lt h3).2 h4, c3.toNat, (Int.toNat_lt h5).2 h6,
      Int.toNat_of_nonneg h1, Int.toNat_of_nonneg h3, Int.toNat_of_nonneg h5⟩

theorem length_gridPoints (mp : Mesh) : (gridPoints mp).length = mp.1 * mp.2.1 * mp.2.2 := by
  unfold gridPoints
  simp [List.length_flatMap, Nat.mul_assoc]

theorem vmod_vmod (R : Vec3) (mp : Mesh) : vmod (vmod R mp) mp = vmod R mp := by
  simp only [vmod, Int.emod_emod]

theorem vmod_of_mem_gridPoints (mp : Mesh) (c : Vec3) (hc : c ∈ gridPoints mp) : vmod c mp = c := by
  obtain ⟨⟨h1, h2⟩, ⟨h3, h4⟩, h5, h6⟩ := (mem_gridPoints mp c).1 hc
  simp only [vmod, Int.emod_eq_of_lt h1 h2, Int.emod_eq_of_lt h3 h4, Int.emod_eq_of_lt h5 h6]

theorem vmod_mem_gridPoints (mp : Mesh) (h1 : 0 < mp.1) (h2 : 0 < mp.2.1) (h3 : 0 < mp.2.2) (R : Vec3) :
    vmod R mp ∈ gridPoints mp := by
  have pos : ∀ {n : Nat}, 0 < n → ∀ x : Int, 0 ≤ x % (n : Int) ∧ x % (n : Int) < n := fun h x =>
    have hn : (0 : Int) < _ := Int.natCast_pos.2 h
    ⟨Int.emod_nonneg x hn.ne', Int.emod_lt_of_pos x hn⟩
  exact (mem_gridPoints mp _).2 ⟨pos h1 _, pos h2 _, pos h3 _⟩

theorem zero_mem_pm (n : Nat) : (0 : Int) ∈ pm n :=
  List.mem_map.2 ⟨n, List.mem_range.2 (by omega), Int.sub_self _⟩

theorem zero_mem_superCells (ws : Nat) : ((0, 0, 0) : Vec3) ∈ superCells ws := by
  simp only [superCells, List.mem_flatMap, List.mem_map]
  exact ⟨0, zero_mem_pm ws, 0, zero_mem_pm ws, 0, zero_mem_pm ws, rfl⟩

theorem self_mem_candidates (ws : Nat) (mp : Mesh) (c : Vec3) : c ∈ candidates ws mp c :=
  List.mem_map.2 ⟨(0, 0, 0), zero_mem_superCells ws, by simp [vadd, vscale]⟩

theorem vmod_candidate (ws : Nat) (mp : Mesh) (c R : Vec3) (hc : c ∈ gridPoints mp)
    (hR : R ∈ candidates ws mp c) : vmod R mp = c := by
  obtain ⟨t, -, rfl⟩ := List.mem_map.1 hR
  rw [← vmod_of_mem_gridPoints mp c hc]
  simp only [vmod, vadd, vscale, Int.add_mul_emod_self_right, Int.emod_emod]

/-! ### the minimum -/

theorem minList_cons (q0 y : Rat) (l : List Rat) : minList q0 (y :: l) = minList (min q0 y) l := by
  have : (if y < q0 then y else q0) = min q0 y := by
    by_cases h : y < q0
    · rw [if_pos h, min_eq_right h.le]
    · rw [if_neg h, min_eq_left (not_lt.1 h)]
  rw [minList, List.foldl_cons, this]
  rfl

theorem minList_le (q0 : Rat) (l : List Rat) : ∀ x ∈ q0 :: l, minList q0 l ≤ x := by
  induction l generalizing q0 with
  | nil => exact fun x hx => (List.mem_singleton.1 hx).ge
  | cons y l ih =>
    intro x hx
    rw [minList_cons]
    rcases List.mem_cons.1 hx with rfl | hx
    · exact (ih _ _ List.mem_cons_self).trans (min_le_left _ _)
    rcases List.mem_cons.1 hx with rfl | hx
    · exact (ih _ _ List.mem_cons_self).trans (min_le_right _ _)
    · exact ih _ x (List.mem_cons_of_mem _ hx)

theorem minList_mem (q0 : Rat) (l : List Rat) : minList q0 l = q0 ∨ minList q0 l ∈ l := by
  induction l generalizing q0 with
  | nil => exact Or.inl rfl
  | cons y l ih =>
    rw [minList_cons]
    rcases ih (min q0 y) with h | h
    · rcases min_choice q0 y with e | e
      · exact Or.inl (h.trans e)
      · exact Or.inr (List.mem_cons.2 (Or.inl (h.trans e)))
    · exact Or.inr (List.mem_cons_of_mem _ h)

end WB.C01
