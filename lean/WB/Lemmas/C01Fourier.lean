/-
  C01 — the Fourier part: the FFT contract (named hypothesis), the mesh array of `q_to_R`, and the algebra shared by
  the round trip and `remap_XX_R` / `do_ws_dist`.
-/
import WB.Lemmas.C01Ws
import WB.Lemmas.C02Box

namespace WB.C01
open WB.C02 (placeOnBox)

/-- **FFT contract** — the only fact about the FFT library that the round trip uses.
    `χ s c` is the phase `e^{2πi s·c/mp}` of mesh point `s` at grid vector `c`; `F` is the library's forward
    transform of an array on the mesh box; the contract is the DFT inversion formula on the box:
        Σ_c χ_s(c) · (1/N) (F A)(c) = A(s)    for every array `A` and every mesh point `s`. -/
def FFTContract {K : Type} [Field K] (mp : Mesh) (χ : Vec3 → Vec3 → K)
    (F : (Vec3 → K) → Vec3 → K) (Ninv : K) : Prop :=
  ∀ (A : Vec3 → K) (s : Vec3), s ∈ gridPoints mp →
    sumK ((gridPoints mp).map fun c => χ s c * (Ninv * F A c)) = A s

/-- a character of a mesh point is periodic with the mesh -/
def MeshPeriodic {K : Type} (mp : Mesh) (χ : Vec3 → K) : Prop := ∀ R, χ R = χ (vmod R mp)

section
variable {K : Type} [Field K]

/-- with duplicate-free slots the mesh array holds the datum of k-point `i` at slot `i` -/
theorem place_slot (slots : List Vec3) (hnd : slots.Nodup) (X : Nat → K) (i : Nat) (hi : i < slots.length) :
    place slots X (slots.getD i (0, 0, 0)) = X i := by
  unfold place
  have hmem : i ∈ (List.range slots.length).reverse := by simp [hi]
  cases hfind : (List.range slots.length).reverse.find? (fun j => slots.getD j (0, 0, 0) = slots.getD i (0, 0, 0)) with
  | none =>
    rw [List.find?_eq_none] at hfind
    have := hfind i hmem
    simp at this
  | some j =>
    have hj := List.mem_of_find?_eq_some hfind
    have hp := List.find?_some hfind
    simp only [List.mem_reverse, List.mem_range] at hj
    simp only [decide_eq_true_eq] at hp
    have : j = i := (List.getD_inj hj hi hnd).mp hp
    simp [this]

theorem foldOnMesh_eq_placeOnBox (mp : Mesh) (entries : List (Vec3 × K)) (c : Vec3) :
    foldOnMesh mp entries c = placeOnBox mp entries c := rfl

/-- the algebraic core of the round trip and of `remap_XX_R`, for the selection of ONE shift `s` (any shift, any
    tolerance ≠ 0): interpolating ANY grid function `g`, spread over the selected replicas with their weights, with a
    mesh-periodic character gives the plain sum over the box -/
theorem RtoK_weighted_grid [CharZero K] (ws : Nat) (G : Gram) (mp : Mesh) (tol : Rat) (s : QVec3) (htol : tol ≠ 0)
    (iRvec : List Vec3) (hnd : iRvec.Nodup) (hsub : ∀ p ∈ wsSelect ws G mp tol s, p.1 ∈ iRvec)
    (χ : Vec3 → K) (hper : MeshPeriodic mp χ) (g : Vec3 → K) :
    RtoK χ iRvec (fun R => weightOf (wsSelect ws G mp tol s) R * g (vmod R mp))
      = sumK ((gridPoints mp).map fun c => χ c * g c) := by
  unfold RtoK
  rw [sumK_map_congr iRvec _
    (fun R => (χ R * g (vmod R mp)) * weightOf (wsSelect ws G mp tol s) R) (fun R _ => by ring),
    sum_weightOf iRvec hnd _ hsub (fun R => χ R * g (vmod R mp)),
    sum_wsSelect ws G mp tol s htol (fun R => χ R * g (vmod R mp))]
  · exact sumK_map_congr _ _ _ fun c hc => by rw [vmod_of_mem_gridPoints mp c hc]
  · intro R
    rw [vmod_vmod, hper R]

end

end WB.C01
