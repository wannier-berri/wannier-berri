/-
  C21 helper lemmas that do not mention the shells: `sumRange` as a `Finset` sum, the block-permutation matrix of the
  Wannier representation, and what follows for the matrices of substitutions in a family of linearly independent
  functions (composition, identity, orthogonality).
-/
import WB.Model.C21
import Mathlib.Data.Matrix.Mul
import Mathlib.Algebra.BigOperators.Fin
import Mathlib.Algebra.Star.Basic
import Mathlib.Tactic.Ring

namespace WB.C21
open Matrix

theorem sumRange_eq_sum_fin {K : Type} [AddCommMonoid K] (n : Nat) (f : Nat → K) :
    sumRange n f = ∑ i : Fin n, f i := by
  induction n with
  | zero => simp [sumRange]
  | succ n ih => rw [sumRange, ih, Fin.sum_univ_castSucc]; simp

section dwann
variable {K : Type} [CommRing K] [StarRing K] {ι : Type} [Fintype ι] [DecidableEq ι] {m : Type} [Fintype m] [DecidableEq m]

/-- block `(π i, i)` is `c i • U i`, all other blocks vanish -/
def Dblock (π : ι → ι) (c : ι → K) (U : ι → Matrix m m K) : Matrix (ι × m) (ι × m) K :=
  fun ja ib => if π ib.1 = ja.1 then c ib.1 * U ib.1 ja.2 ib.2 else 0

end dwann

/-- `ψ∘g₁ = χ·A`, `φ∘g₂ = ψ·B`, `φ∘g₂∘g₁ = χ·C`, coefficient vectors with respect to `χ` unique  ⇒  `C = A B` -/
theorem subst_comp {K : Type} [CommRing K] {X Y Z : Type} {l m n : Type} [Fintype l] [Fintype m] [Fintype n]
    (χ : l → X → K) (ψ : m → Y → K) (φ : n → Z → K)
    (hindep : ∀ c : l → K, (∀ x, ∑ k, χ k x * c k = 0) → ∀ k, c k = 0)
    (g1 : X → Y) (g2 : Y → Z) (A : l → m → K) (B : m → n → K) (C : l → n → K)
    (h1 : ∀ j x, ψ j (g1 x) = ∑ k, χ k x * A k j)
    (h2 : ∀ i y, φ i (g2 y) = ∑ j, ψ j y * B j i)
    (h12 : ∀ i x, φ i (g2 (g1 x)) = ∑ k, χ k x * C k i) (k : l) (i : n) :
    C k i = ∑ j, A k j * B j i := by
  refine sub_eq_zero.1 (hindep (fun k => C k i - ∑ j, A k j * B j i) (fun x => ?_) k)
  have e : ∑ k, χ k x * ∑ j, A k j * B j i = φ i (g2 (g1 x)) := by
    rw [h2 i (g1 x)]
    simp only [h1, Finset.mul_sum, Finset.sum_mul]
    rw [Finset.sum_comm]
    exact Finset.sum_congr rfl fun j _ => Finset.sum_congr rfl fun k _ => by ring
  simp only [mul_sub, Finset.sum_sub_distrib, ← h12, e, sub_self]

theorem subst_identity {K : Type} [CommRing K] {X : Type} {n : Type} [Fintype n] [DecidableEq n]
    (φ : n → X → K)
    (hindep : ∀ c : n → K, (∀ x, ∑ l, φ l x * c l = 0) → ∀ l, c l = 0)
    (B : n → n → K) (h : ∀ i x, φ i x = ∑ j, φ j x * B j i) (l i : n) :
    B l i = if l = i then 1 else 0 := by
  refine sub_eq_zero.1 (hindep (fun l => B l i - if l = i then 1 else 0) (fun x => ?_) l)
  simp only [mul_sub, Finset.sum_sub_distrib, ← h, mul_ite, mul_one, mul_zero, Finset.sum_ite_eq', Finset.mem_univ,
    if_true, sub_self]

/-- `φ(gx)ᵀ φ(gy) = φ(x)ᵀ B Bᵀ φ(y)`, and independence strips `φ(x)`, then `φ(y)` -/
theorem subst_orthogonal {K : Type} [CommRing K] {X : Type} {n : Type} [Fintype n] [DecidableEq n]
    (φ : n → X → K)
    (hindep : ∀ c : n → K, (∀ x, ∑ l, φ l x * c l = 0) → ∀ l, c l = 0)
    (g : X → X) (B : Matrix n n K)
    (h : ∀ i x, φ i (g x) = ∑ j, φ j x * B j i)
    (hk : ∀ x y, ∑ j, φ j (g x) * φ j (g y) = ∑ j, φ j x * φ j y) :
    B * Bᵀ = 1 := by
  have hΦ : ∀ x, (fun j => φ j (g x)) = (fun j => φ j x) ᵥ* B := fun x => funext fun i => h i x
  have key : ∀ y x, (fun j => φ j x) ⬝ᵥ ((B * Bᵀ - 1) *ᵥ fun j => φ j y) = 0 := by
    intro y x
    rw [sub_mulVec, one_mulVec, dotProduct_sub, sub_eq_zero, ← mulVec_mulVec, dotProduct_mulVec, mulVec_transpose,
      ← hΦ, ← hΦ]
    exact hk x y
  have h1 : ∀ y, (B * Bᵀ - 1) *ᵥ (fun j => φ j y) = 0 := fun y => funext (hindep _ (key y))
  ext i i'
  refine sub_eq_zero.1 (hindep (fun l => (B * Bᵀ - 1) i l) (fun y => ?_) i')
  simpa only [mulVec, dotProduct, mul_comm, Pi.zero_apply] using congrFun (h1 y) i

end WB.C21
