/-
  C07 helper lemmas: composition with C06 (`Grid.get_K_list`): the retained points of the C06 model being
  pairwise different, C06's orbit cover is the partition hypothesis of `weighted_orbit_sum`.
-/
import WB.Lemmas.C07Orbit
import WB.Lemmas.C06Orbit
import Mathlib.Data.List.Nodup

namespace WB.C07
open WB.C06

theorem map_filterMap_sublist_map {α β γ : Type} (f : α → Option β) (a : α → γ) (b : β → γ)
    (h : ∀ x y, f x = some y → b y = a x) : ∀ (l : List α), ((l.filterMap f).map b).Sublist (l.map a)
  | [] => by simp
  | x :: t => by
    rw [List.filterMap_cons]
    cases hx : f x with
    | none => simpa using (map_filterMap_sublist_map f a b h t).cons _
    | some y =>
      simp only [List.map_cons]
      rw [h x y hx]
      exact (map_filterMap_sublist_map f a b h t).cons_cons _

section Compose
variable {G : Type} {L : List G} {act : G → Idx → Idx}

/-- C06's orbit cover gives the partition hypothesis, provided C06's star of a grid index is the orbit of that index
    under the action (`hstar`: the interface between the two models, both are the code's `round(star·div) % div`). -/
theorem partition_of_C06 (syms : List Sym) (div : Idx) (hS : OrbitHyp div (starIdx syms div))
    (hnd : ((kept syms div true).map Prod.fst).Nodup)
    (hstar : ∀ r, inRange div r → (starIdx syms div r).Perm (orbit L act r)) :
    (((kept syms div true).map Prod.fst).flatMap (orbit L act)).Perm (flatOrder div) := by
  obtain ⟨h1, h2⟩ := kept_orbit_cover syms div hS
  have hk : ∀ r ∈ (kept syms div true).map Prod.fst, ∃ f, (r, f) ∈ kept syms div true ∧ inRange div r := by
    intro r hr
    obtain ⟨⟨r', f⟩, hm, rfl⟩ := List.mem_map.1 hr
    exact ⟨f, hm, (h1 r' f hm).1⟩
  refine (List.perm_ext_iff_of_nodup ?_ (flatOrder_nodup div)).2 fun q => ?_
  · -- orbits of different retained points are disjoint: a common point has one retained representative
    rw [List.nodup_flatMap]
    refine ⟨fun r _ => List.nodup_dedup _, hnd.pairwise_of_forall_ne fun a ha b hb hab q hqa hqb => ?_⟩
    obtain ⟨fa, hfa, ia⟩ := hk a ha
    obtain ⟨fb, hfb, ib⟩ := hk b hb
    have qa : q ∈ starIdx syms div a := (hstar a ia).mem_iff.2 hqa
    have qb : q ∈ starIdx syms div b := (hstar b ib).mem_iff.2 hqb
    obtain ⟨r, f, _, _, huniq⟩ := h2 q (hS.range a ia q qa)
    exact hab ((huniq a fa hfa qa).trans (huniq b fb hfb qb).symm)
  · rw [List.mem_flatMap, mem_flatOrder]
    constructor
    · rintro ⟨r, hr, hq⟩
      obtain ⟨_, _, ir⟩ := hk r hr
      exact hS.range r ir q ((hstar r ir).mem_iff.2 hq)
    · intro hq
      obtain ⟨r, f, hm, hqr, _⟩ := h2 q hq
      exact ⟨r, List.mem_map.2 ⟨(r, f), hm, rfl⟩, (hstar r (h1 r f hm).1).mem_iff.1 hqr⟩

end Compose

end WB.C07
