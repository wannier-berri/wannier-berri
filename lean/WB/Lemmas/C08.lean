/-
  C08 — semantics of the graded calculus and soundness of `grade`, `declOK_TR`, `declOK_Inv`, `checkRowTerm`; the
  parity rule of `Data_K.covariant` (`grade_derivN`, `grade_wannExpr`).

  The semantic domain is ANY ring `R` (think: band-matrix valued functions of k) with
    conj  : ring endomorphism (elementwise complex conjugation)
    rev   : ring endomorphism (k ↦ -k), commuting with conj, both involutive
    dag   : additive map (Hermitian transpose) commuting with conj and rev
    D     : additive map (∂_k) with  D (rev x) = - rev (D x)  and  conj (D x) = D (conj x)
    lin t : additive maps (index operations) commuting with conj, rev
    emask t : additive maps (multiplication by real functions of the energies) commuting with conj
    hmul  : bi-additive product (elementwise product) respected by conj and rev
    I, cst q : elements with conj I = -I, rev I = I, conj (cst q) = rev (cst q) = cst q
    wann n, U, E : the atoms (real-space matrices, eigenvectors, energies), conj E = E
    tau p : additive maps (permutations of the cartesian axes of the observable) commuting with conj
-/
import WB.Model.C08
import Mathlib.Algebra.Ring.Hom.Defs

namespace WB.C08

structure Alg (R : Type) [Ring R] where
  conj : R →+* R
  rev : R →+* R
  dag : R →+ R
  D : R →+ R
  lin : Nat → R →+ R
  emask : Nat → R →+ R
  hmul : R →+ R →+ R
  tau : List Nat → R →+ R
  I : R
  cst : Rat → R
  wann : Name → R
  U : R
  E : R
  conj_conj : ∀ x, conj (conj x) = x
  rev_rev : ∀ x, rev (rev x) = x
  rev_conj : ∀ x, rev (conj x) = conj (rev x)
  rev_dag : ∀ x, rev (dag x) = dag (rev x)
  conj_dag : ∀ x, conj (dag x) = dag (conj x)
  rev_D : ∀ x, D (rev x) = -rev (D x)
  conj_D : ∀ x, conj (D x) = D (conj x)
  rev_lin : ∀ t x, rev (lin t x) = lin t (rev x)
  conj_lin : ∀ t x, conj (lin t x) = lin t (conj x)
  conj_emask : ∀ t x, conj (emask t x) = emask t (conj x)
  rev_hmul : ∀ x y, rev (hmul x y) = hmul (rev x) (rev y)
  conj_hmul : ∀ x y, conj (hmul x y) = hmul (conj x) (conj y)
  conj_tau : ∀ p x, conj (tau p x) = tau p (conj x)
  conj_I : conj I = -I
  rev_I : rev I = I
  conj_cst : ∀ q, conj (cst q) = cst q
  rev_cst : ∀ q, rev (cst q) = cst q
  conj_E : conj E = E

variable {R : Type} [Ring R]

/-- (-1)^b · x -/
def sg (b : Bool) (x : R) : R := if b then -x else x

@[simp] theorem sg_false (x : R) : sg false x = x := rfl
@[simp] theorem sg_true (x : R) : sg true x = -x := rfl

theorem sg_zero (b : Bool) : sg b (0 : R) = 0 := by
  cases b
  · rfl
  · exact neg_zero

theorem sg_add (b : Bool) (x y : R) : sg b (x + y) = sg b x + sg b y := by
  cases b
  · rfl
  · exact neg_add x y

theorem sg_neg (b : Bool) (x : R) : sg b (-x) = -sg b x := by
  cases b <;> rfl

theorem sg_not (b : Bool) (x : R) : sg (!b) x = -sg b x := by
  cases b
  · rfl
  · exact (neg_neg x).symm

theorem sg_mul (a b : Bool) (x y : R) : sg a x * sg b y = sg (xor a b) (x * y) := by
  cases a <;> cases b
  · rfl
  · exact mul_neg x y
  · exact neg_mul x y
  · exact neg_mul_neg x y

theorem sg_sg (a b : Bool) (x : R) : sg a (sg b x) = sg (xor a b) x := by
  cases a <;> cases b <;> try rfl
  exact neg_neg x

theorem map_sg {S F : Type} [Ring S] [FunLike F R S] [AddMonoidHomClass F R S] (f : F) (b : Bool) (x : R) :
    f (sg b x) = sg b (f x) := by
  cases b
  · rfl
  · exact map_neg f x

/-- semantics -/
def eval (A : Alg R) : PExpr → R
  | .wann n => A.wann n
  | .U => A.U
  | .E => A.E
  | .const q => A.cst q
  | .I => A.I
  | .zero => 0
  | .add x y => eval A x + eval A y
  | .neg x => -eval A x
  | .mul x y => eval A x * eval A y
  | .hmul x y => A.hmul (eval A x) (eval A y)
  | .dagger x => A.dag (eval A x)
  | .conjE x => A.conj (eval A x)
  | .deriv x => A.D (eval A x)
  | .lin t x => A.lin t (eval A x)
  | .emask t x => A.emask t (eval A x)
  | .re x => A.cst (1/2) * (eval A x + A.conj (eval A x))
  | .im x => A.cst (-1/2) * (A.I * (eval A x - A.conj (eval A x)))

def Grade.trOdd : Grade → Bool
  | .val t _ => t
  | _ => false
def Grade.invOdd : Grade → Bool
  | .val _ i => i
  | _ => false

theorem baseGrade_isVal (n : Name) : ∃ t i, baseGrade n = .val t i := by
  cases n <;> exact ⟨_, _, rfl⟩

/-! ## parity under `k ↦ -k`

Time reversal and inversion are treated together.  A value has parity `b` when its value at `-k` is `(-1)^b` times
its value at `k` seen through `twist`: the conjugation for time reversal (`tr = true`), nothing for inversion. -/

def Alg.twist (A : Alg R) : Bool → R →+* R
  | true => A.conj
  | false => RingHom.id R

theorem twist_comm (A : Alg R) (tr : Bool) (f : R →+ R) (hc : ∀ x, A.conj (f x) = f (A.conj x)) (x : R) :
    A.twist tr (f x) = f (A.twist tr x) := by
  cases tr
  · rfl
  · exact hc x

def Grade.odd (g : Grade) : Bool → Bool
  | true => g.trOdd
  | false => g.invOdd

def Par (A : Alg R) (tr b : Bool) (x : R) : Prop := A.rev x = sg b (A.twist tr x)

section Par
variable {A : Alg R} {tr a b : Bool} {x y : R}

theorem Par.add (hx : Par A tr b x) (hy : Par A tr b y) : Par A tr b (x + y) := by
  unfold Par at *
  rw [map_add, map_add, hx, hy, sg_add]

theorem Par.neg (hx : Par A tr b x) : Par A tr b (-x) := by
  unfold Par at *
  rw [map_neg, map_neg, hx, sg_neg]

theorem Par.mul (hx : Par A tr a x) (hy : Par A tr b y) : Par A tr (xor a b) (x * y) := by
  unfold Par at *
  rw [map_mul, map_mul, hx, hy, sg_mul]

theorem Par.hmul (hx : Par A tr a x) (hy : Par A tr b y) : Par A tr (xor a b) (A.hmul x y) := by
  unfold Par at *
  have ht : A.twist tr (A.hmul x y) = A.hmul (A.twist tr x) (A.twist tr y) := by
    cases tr
    · rfl
    · exact A.conj_hmul x y
  have hl : ∀ u w, A.hmul (sg a u) w = sg a (A.hmul u w) := by
    intro u w
    cases a
    · rfl
    · rw [sg_true, map_neg]
      rfl
  rw [A.rev_hmul, hx, hy, ht, hl, map_sg, sg_sg]

theorem Par.map (f : R →+ R) (hr : ∀ x, A.rev (f x) = f (A.rev x)) (hc : ∀ x, A.conj (f x) = f (A.conj x))
    (hx : Par A tr b x) : Par A tr b (f x) := by
  unfold Par at *
  rw [hr, hx, map_sg, twist_comm A tr f hc]

theorem Par.conj (hx : Par A tr b x) : Par A tr b (A.conj x) :=
  hx.map A.conj.toAddMonoidHom A.rev_conj fun _ => rfl

theorem Par.deriv (hx : Par A tr b x) : Par A tr (!b) (A.D x) := by
  unfold Par at *
  rw [← neg_neg (A.rev (A.D x)), ← A.rev_D, hx, map_sg, ← sg_not, twist_comm A tr A.D A.conj_D]

theorem Par.cst (q : Rat) : Par A tr false (A.cst q) := by
  unfold Par
  rw [A.rev_cst]
  cases tr
  · rfl
  · exact (A.conj_cst q).symm

theorem Par.cst_mul (hx : Par A tr b x) (q : Rat) : Par A tr b (A.cst q * x) :=
  Bool.false_xor b ▸ (Par.cst q).mul hx

/-- the imaginary unit is odd under time reversal and even under inversion -/
theorem Par.I : Par A tr tr A.I := by
  unfold Par
  rw [A.rev_I]
  cases tr
  · rfl
  · exact (neg_eq_iff_eq_neg.mpr A.conj_I).symm

theorem Par.re (h : Par A tr b x) : Par A tr b (A.cst (1/2) * (x + A.conj x)) :=
  (h.add h.conj).cst_mul _

theorem Par.im (h : Par A tr b x) {c : Bool} (hc : xor tr b = c) :
    Par A tr c (A.cst (-1/2) * (A.I * (x - A.conj x))) := by
  subst hc
  rw [sub_eq_add_neg]
  exact (Par.I.mul (h.add h.conj.neg)).cst_mul _

end Par

/-- the model is time-reversal symmetric (spinless): real-space matrices real / imaginary as `baseGrade` says,
    eigenvectors in the gauge U(-k) = conj U(k), energies even -/
structure TRSym (A : Alg R) : Prop where
  wann : ∀ n, A.rev (A.wann n) = sg (baseGrade n).trOdd (A.conj (A.wann n))
  U : A.rev A.U = A.conj A.U
  E : A.rev A.E = A.E
  emask : ∀ t x, A.rev (A.emask t x) = A.emask t (A.rev x)

/-- the model is inversion symmetric (in the gauge where the Wannier functions are parity eigenstates at the origin) -/
structure InvSym (A : Alg R) : Prop where
  wann : ∀ n, A.rev (A.wann n) = sg (baseGrade n).invOdd (A.wann n)
  U : A.rev A.U = A.U
  E : A.rev A.E = A.E
  emask : ∀ t x, A.rev (A.emask t x) = A.emask t (A.rev x)

/-- what a grade asserts about a value -/
def Sound (A : Alg R) (tr : Bool) (g : Grade) (v : R) : Prop :=
  match g with
  | .bad => True
  | .zero => v = 0
  | .val t i => Par A tr ((Grade.val t i).odd tr) v

section Sound
variable {A : Alg R} {tr : Bool} {g g₁ g₂ : Grade} {v v₁ v₂ : R}

theorem Sound.even (h : Par A tr false v) : Sound A tr (.val false false) v := by
  cases tr <;> exact h

theorem Sound.add (h₁ : Sound A tr g₁ v₁) (h₂ : Sound A tr g₂ v₂) : Sound A tr (g₁.add g₂) (v₁ + v₂) := by
  cases g₁ <;> cases g₂ <;> try exact trivial
  · obtain rfl : v₁ = 0 := h₁
    obtain rfl : v₂ = 0 := h₂
    exact add_zero 0
  · obtain rfl : v₁ = 0 := h₁
    rw [zero_add]
    exact h₂
  · obtain rfl : v₂ = 0 := h₂
    rw [add_zero]
    exact h₁
  · rename_i a b c d
    show Sound A tr (if a = c ∧ b = d then .val a b else .bad) _
    split
    · rename_i h
      obtain ⟨rfl, rfl⟩ := h
      exact Par.add h₁ h₂
    · trivial

/-- products, matrix or elementwise: the parities add -/
theorem Sound.mul (m : R → R → R) (h0l : ∀ y, m 0 y = 0) (h0r : ∀ x, m x 0 = 0)
    (hm : ∀ {a b x y}, Par A tr a x → Par A tr b y → Par A tr (xor a b) (m x y))
    (h₁ : Sound A tr g₁ v₁) (h₂ : Sound A tr g₂ v₂) : Sound A tr (g₁.mul g₂) (m v₁ v₂) := by
  cases g₁ <;> cases g₂ <;> try exact trivial
  · obtain rfl : v₁ = 0 := h₁
    exact h0l _
  · obtain rfl : v₁ = 0 := h₁
    exact h0l _
  · obtain rfl : v₂ = 0 := h₂
    exact h0r _
  · cases tr <;> exact hm h₁ h₂

theorem Sound.map (f : R → R) (h0 : f 0 = 0) (hf : ∀ {b x}, Par A tr b x → Par A tr b (f x))
    (h : Sound A tr g v) : Sound A tr g (f v) := by
  cases g
  · trivial
  · obtain rfl : v = 0 := h
    exact h0
  · exact hf h

theorem Sound.deriv (h : Sound A tr g v) : Sound A tr g.flip (A.D v) := by
  cases g
  · trivial
  · obtain rfl : v = 0 := h
    exact map_zero _
  · cases tr <;> exact Par.deriv h

theorem Sound.im (h : Sound A tr g v) : Sound A tr g.flipTR (A.cst (-1/2) * (A.I * (v - A.conj v))) := by
  cases g
  · trivial
  · obtain rfl : v = 0 := h
    show A.cst _ * (A.I * (0 - A.conj 0)) = 0
    rw [map_zero, sub_zero, mul_zero, mul_zero]
  · cases tr
    · exact Par.im h (Bool.false_xor _)
    · exact Par.im h (Bool.true_xor _)

theorem grade_sound (A : Alg R) (tr : Bool) (hwann : ∀ n, Par A tr ((baseGrade n).odd tr) (A.wann n))
    (hU : Par A tr false A.U) (hE : Par A tr false A.E)
    (hmask : ∀ t x, A.rev (A.emask t x) = A.emask t (A.rev x)) (e : PExpr) : Sound A tr (grade e) (eval A e) := by
  induction e with
  | wann n =>
    show Sound A tr (baseGrade n) (A.wann n)
    obtain ⟨t, i, hb⟩ := baseGrade_isVal n
    have h := hwann n
    rw [hb] at h ⊢
    exact h
  | U => exact Sound.even hU
  | E => exact Sound.even hE
  | const q => exact Sound.even (Par.cst q)
  | I => show Sound A tr (.val true false) A.I; cases tr <;> exact Par.I
  | zero => exact rfl
  | add x y hx hy => exact hx.add hy
  | neg x hx => exact hx.map _ neg_zero Par.neg
  | mul x y hx hy => exact Sound.mul _ zero_mul mul_zero Par.mul hx hy
  | hmul x y hx hy =>
    exact Sound.mul (fun a b => A.hmul a b) (fun y => by rw [map_zero]; rfl) (fun x => map_zero _) Par.hmul hx hy
  | dagger x hx => exact hx.map _ (map_zero _) (Par.map A.dag A.rev_dag A.conj_dag)
  | conjE x hx => exact hx.map _ (map_zero _) Par.conj
  | lin t x hx => exact hx.map _ (map_zero _) (Par.map _ (A.rev_lin t) (A.conj_lin t))
  | emask t x hx => exact hx.map _ (map_zero _) (Par.map _ (hmask t) (A.conj_emask t))
  | deriv x hx => exact hx.deriv
  | re x hx => exact hx.map (fun v => A.cst (1/2) * (v + A.conj v)) (by rw [map_zero, add_zero, mul_zero]) Par.re
  | im x hx => exact hx.im

end Sound

theorem TRSym.sound {A : Alg R} (hA : TRSym A) (e : PExpr) : Sound A true (grade e) (eval A e) :=
  grade_sound A true hA.wann hA.U (hA.E.trans A.conj_E.symm) hA.emask e

theorem InvSym.sound {A : Alg R} (hA : InvSym A) (e : PExpr) : Sound A false (grade e) (eval A e) :=
  grade_sound A false hA.wann hA.U hA.E hA.emask e

/-! ## applying a declared `Transform` -/

def conjIf (A : Alg R) (b : Bool) (x : R) : R := if b then A.conj x else x

def permOp (A : Alg R) : Option (List Nat) → R → R
  | none, x => x
  | some p, x => A.tau p x

/-- `Transform.__call__`: permute the axes, conjugate, multiply by the factor -/
def applyDecl (A : Alg R) (d : Decl) (x : R) : R := sg d.odd (conjIf A d.conj (permOp A d.transpose x))

/-- the semantic content of a `TauFact` -/
def TauHolds (A : Alg R) (t : TauFact) (x : R) : Prop :=
  A.tau t.perm x = sg t.neg (conjIf A t.withConj x)

section Decl
variable (A : Alg R)

theorem twist_eq_conjIf (tr : Bool) (x : R) : A.twist tr x = conjIf A tr x := by
  cases tr <;> rfl

theorem conjIf_sg (b c : Bool) (x : R) : conjIf A b (sg c x) = sg c (conjIf A b x) := by
  rw [← twist_eq_conjIf, ← twist_eq_conjIf, map_sg]

theorem conjIf_conjIf (b c : Bool) (x : R) : conjIf A b (conjIf A c x) = conjIf A (xor b c) x := by
  cases b <;> cases c <;> try rfl
  exact A.conj_conj x

theorem conjIf_real {x : R} (h : A.conj x = x) (b : Bool) : conjIf A b x = x := by
  cases b
  · rfl
  · exact h

theorem applyDecl_zero (d : Decl) : applyDecl A d 0 = 0 := by
  have h : permOp A d.transpose 0 = 0 := by
    cases d.transpose
    · rfl
    · exact map_zero _
  rw [applyDecl, h, ← twist_eq_conjIf, map_zero, sg_zero]

variable {A} {tr s real : Bool} {x : R}

theorem applyDecl_plain (hx : Par A tr s x) (hreal : real = true → A.conj x = x) {cj : Bool}
    (h : cj = tr ∨ real = true) : applyDecl A ⟨s, cj, none⟩ x = A.rev x := by
  rw [hx, twist_eq_conjIf]
  show sg s (conjIf A cj x) = _
  rcases h with rfl | h
  · rfl
  · rw [conjIf_real A (hreal h), conjIf_real A (hreal h)]

theorem applyDecl_perm (hx : Par A tr s x) (hreal : real = true → A.conj x = x) {odd cj : Bool} {t : TauFact}
    (ht : TauHolds A t x) (hs : xor odd t.neg = s) (h : xor cj t.withConj = tr ∨ real = true) :
    applyDecl A ⟨odd, cj, some t.perm⟩ x = A.rev x := by
  rw [← applyDecl_plain hx hreal h]
  show sg odd (conjIf A cj (A.tau t.perm x)) = sg s (conjIf A _ x)
  rw [ht, conjIf_sg, conjIf_conjIf, sg_sg, hs]

theorem declOK_sound (tr : Bool) (facts : List TauFact) (d : Decl) (hx : Par A tr s x)
    (hreal : real = true → A.conj x = x) (hfacts : ∀ t ∈ facts, TauHolds A t x)
    (hok : (bif tr then declOK_TR s real facts d else declOK_Inv s real facts d) = true) :
    applyDecl A d x = A.rev x := by
  obtain ⟨odd, cj, tp⟩ := d
  cases tp with
  | none =>
    cases tr <;>
    · simp only [cond, declOK_TR, declOK_Inv, Bool.and_eq_true, beq_iff_eq, Bool.or_eq_true, Bool.not_eq_true'] at hok
      obtain ⟨rfl, h⟩ := hok
      exact applyDecl_plain hx hreal h
  | some p =>
    cases tr <;>
    · simp only [cond, declOK_TR, declOK_Inv, List.any_eq_true, Bool.and_eq_true, beq_iff_eq, Bool.or_eq_true,
        Bool.not_eq_true'] at hok
      obtain ⟨t, ht, ⟨rfl, hs⟩, h⟩ := hok
      exact applyDecl_perm hx hreal (hfacts t ht) hs h

/-- A row accepted by `checkRowTerm` for a term `e` is true of `⟦e⟧`: its time-reversal declaration when the model has
    that symmetry (`tr = true`), its inversion declaration when it has that one. -/
theorem checkRowTerm_sound (tr : Bool) {e : PExpr} (hs : Sound A tr (grade e) (eval A e))
    (hreal : isReal e = true → A.conj (eval A e) = eval A e) {r : Row} (hrow : checkRowTerm e r = true)
    (hfacts : ∀ t ∈ tauFacts r.f r.v, TauHolds A t (eval A e)) :
    applyDecl A (bif tr then r.tr else r.inv) (eval A e) = A.rev (eval A e) := by
  unfold checkRowTerm at hrow
  cases hg : grade e with
  | bad => rw [hg] at hrow; exact absurd hrow Bool.false_ne_true
  | zero =>
    rw [hg] at hs
    rw [show eval A e = 0 from hs, applyDecl_zero, map_zero]
  | val t i =>
    rw [hg] at hs hrow
    obtain ⟨h1, h2⟩ := Bool.and_eq_true_iff.mp hrow
    cases tr
    · exact declOK_sound false _ _ hs hreal hfacts h2
    · exact declOK_sound true _ _ hs hreal hfacts h1

end Decl

/-! ## the parity rule of `Data_K.covariant` -/

def Grade.flipN (g : Grade) (d : Nat) : Grade := if d % 2 = 0 then g else g.flip

theorem Grade.flip_flip (g : Grade) : g.flip.flip = g := by
  cases g <;> try rfl
  exact congrArg₂ Grade.val (Bool.not_not _) (Bool.not_not _)

theorem Grade.flipN_succ (g : Grade) (d : Nat) : g.flipN (d + 1) = (g.flipN d).flip := by
  unfold Grade.flipN
  rw [Nat.add_mod]
  rcases Nat.mod_two_eq_zero_or_one d with h | h <;> rw [h]
  · rfl
  · exact g.flip_flip.symm

theorem Grade.even_mul (g : Grade) : (Grade.val false false).mul g = g := by
  cases g <;> try rfl
  exact congrArg₂ Grade.val (Bool.false_xor _) (Bool.false_xor _)

theorem Grade.mul_even (g : Grade) : g.mul (.val false false) = g := by
  cases g <;> try rfl
  exact congrArg₂ Grade.val (Bool.xor_false _) (Bool.xor_false _)

theorem grade_wannExpr (n : Name) : grade (wannExpr n) = baseGrade n := by
  cases n <;> rfl

theorem grade_derivN (d : Nat) (x : PExpr) : grade (derivN d x) = (grade x).flipN d := by
  induction d with
  | zero => rfl
  | succ k ih =>
    show (grade (derivN k x)).flip = _
    rw [ih, Grade.flipN_succ]

end WB.C08
