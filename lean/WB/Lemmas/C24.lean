/-
  Helper lemmas for C24 (wannierise: masks, embedding, isometry).
-/
import WB.Model.C24
import Mathlib.Data.List.Nodup
import Mathlib.LinearAlgebra.Matrix.ConjTranspose
import Mathlib.Data.Matrix.Mul
import Mathlib.Algebra.BigOperators.Fin

namespace WB.C24
open WB.C15

/-! ### masks -/

theorem inWindow_mono (E : Nat → Rat) (a b c d : Rat) (j : Nat) (h1 : c ≤ a) (h2 : b ≤ d)
    (h : inWindow E a b j = true) : inWindow E c d j = true := by
  unfold inWindow at *
  simp only [Bool.and_eq_true, decide_eq_true_eq] at *
  exact ⟨le_trans h.1 h2, le_trans h1 h.2⟩

theorem mem_idx (n : Nat) (mask : Nat → Bool) (j : Nat) : j ∈ idx n mask ↔ j < n ∧ mask j = true := by
  unfold idx; simp [List.mem_filter]

theorem idx_nodup (n : Nat) (mask : Nat → Bool) : (idx n mask).Nodup :=
  List.Nodup.filter _ List.nodup_range

/-! ### matrices -/

open Matrix

section
variable {K : Type} [CommRing K]

theorem sumTo_eq (n : Nat) (f : Nat → K) : sumTo n f = ∑ j ∈ Finset.range n, f j := by
  unfold sumTo
  induction n with
  | zero => simp
  | succ n ih =>
    rw [List.range_succ, List.foldl_append, ih, Finset.sum_range_succ]
    simp

/-- the embedding as a Mathlib matrix -/
def Emat (fz fr : List Nat) (Uf : Nat → Nat → K) (nb nw : Nat) : Matrix (Fin nb) (Fin nw) K :=
  Matrix.of fun b w => embed fz fr Uf b.val w.val

/-- `U_opt_free` as a Mathlib matrix -/
def Ufmat (Uf : Nat → Nat → K) (nf ng : Nat) : Matrix (Fin nf) (Fin ng) K :=
  Matrix.of fun i g => Uf i.val g.val

theorem embed_frozen_col (fz fr : List Nat) (Uf : Nat → Nat → K) (b w : Nat) (hw : w < fz.length) :
    embed fz fr Uf b w = if fz[w] = b then 1 else 0 := by
  unfold embed
  rw [if_pos hw, List.getElem?_eq_getElem hw]
  simp

theorem embed_free_col (fz fr : List Nat) (Uf : Nat → Nat → K) (b w : Nat) (hw : ¬ w < fz.length) :
    embed fz fr Uf b w = if fr.idxOf b < fr.length then Uf (fr.idxOf b) (w - fz.length) else 0 := by
  unfold embed
  rw [if_neg hw]

theorem embed_zero_free_col (fz fr : List Nat) (Uf : Nat → Nat → K) (b w : Nat)
    (hw : ¬ w < fz.length) (h2 : b ∉ fr) : embed fz fr Uf b w = 0 := by
  rw [embed_free_col _ _ _ _ _ hw, if_neg (fun h => h2 (List.idxOf_lt_length_iff.1 h))]

theorem embed_zero_row (fz fr : List Nat) (Uf : Nat → Nat → K) (b w : Nat)
    (h1 : b ∉ fz) (h2 : b ∉ fr) : embed fz fr Uf b w = 0 := by
  by_cases hw : w < fz.length
  · rw [embed_frozen_col _ _ _ _ _ hw, if_neg (fun h : fz[w] = b => h1 (h ▸ List.getElem_mem hw))]
  · exact embed_zero_free_col fz fr Uf b w hw h2

theorem sum_over_list (nb : Nat) (fr : List Nat) (hnd : fr.Nodup) (hlt : ∀ b ∈ fr, b < nb)
    (F : Nat → K) (hF : ∀ b, b ∉ fr → F b = 0) :
    ∑ b : Fin nb, F b.val = ∑ i : Fin fr.length, F (fr[i.val]'i.isLt) := by
  rw [Fin.sum_univ_fun_getElem, ← List.sum_toFinset _ hnd, Fin.sum_univ_eq_sum_range (fun b => F b) nb]
  exact (Finset.sum_subset (fun b hb => Finset.mem_range.2 (hlt b (List.mem_toFinset.1 hb)))
    fun b _ hb => hF b (mt List.mem_toFinset.2 hb)).symm

end

section
variable {K : Type} [CommRing K] [StarRing K]

theorem Emat_gram_apply (fz fr : List Nat) (Uf : Nat → Nat → K) (nb nw : Nat) (w w' : Fin nw) :
    ((Emat fz fr Uf nb nw)ᴴ * Emat fz fr Uf nb nw) w w'
      = ∑ b : Fin nb, star (embed fz fr Uf b.val w.val) * embed fz fr Uf b.val w'.val := by
  rw [Matrix.mul_apply]
  rfl

theorem sum_star_frozen_col (fz fr : List Nat) (Uf : Nat → Nat → K) (nb w : Nat) (hw : w < fz.length)
    (hlt : fz[w] < nb) (F : Nat → K) :
    ∑ b : Fin nb, star (embed fz fr Uf b.val w) * F b.val = F fz[w] := by
  rw [Fin.sum_univ_eq_sum_range (fun b => star (embed fz fr Uf b w) * F b) nb]
  simp only [embed_frozen_col _ _ _ _ _ hw, apply_ite star, star_one, star_zero, ite_mul, one_mul, zero_mul,
    Finset.sum_ite_eq, Finset.mem_range, if_pos hlt]

theorem Emat_isometry (fz fr : List Nat) (Uf : Nat → Nat → K) (nb nw : Nat)
    (hfz : fz.Nodup) (hfr : fr.Nodup) (hdisj : ∀ b ∈ fz, b ∉ fr)
    (hfzlt : ∀ b ∈ fz, b < nb) (hfrlt : ∀ b ∈ fr, b < nb)
    (hUf : (Ufmat Uf fr.length (nw - fz.length))ᴴ * Ufmat Uf fr.length (nw - fz.length) = 1) :
    (Emat fz fr Uf nb nw)ᴴ * Emat fz fr Uf nb nw = 1 := by
  -- a frozen column is the unit vector of its band: orthogonal to the free columns, which vanish there
  have hfrozen : ∀ w w' : Fin nw, w.val < fz.length →
      ((Emat fz fr Uf nb nw)ᴴ * Emat fz fr Uf nb nw) w w' = (1 : Matrix _ _ K) w w' := by
    intro w w' hw
    have hmem := List.getElem_mem hw
    rw [Emat_gram_apply, sum_star_frozen_col fz fr Uf nb w.val hw (hfzlt _ hmem) (fun b => embed fz fr Uf b w'.val),
      Matrix.one_apply]
    by_cases hw' : w'.val < fz.length
    · rw [embed_frozen_col _ _ _ _ _ hw']
      exact if_congr ((hfz.getElem_inj_iff).trans (eq_comm.trans Fin.ext_iff.symm)) rfl rfl
    · rw [embed_zero_free_col _ _ _ _ _ hw' (hdisj _ hmem), if_neg (fun h : w = w' => hw' (h ▸ hw))]
  ext w w'
  by_cases hw : w.val < fz.length
  · exact hfrozen w w' hw
  by_cases hw' : w'.val < fz.length
  · -- the Gram matrix is Hermitian
    rw [← conjTranspose_conjTranspose (Emat fz fr Uf nb nw), ← conjTranspose_mul, conjTranspose_conjTranspose,
      conjTranspose_apply, hfrozen w' w hw', Matrix.one_apply, Matrix.one_apply, apply_ite star, star_one, star_zero]
    exact if_congr eq_comm rfl rfl
  · -- two free columns: the Gram matrix of `U_opt_free`
    have hg := Nat.sub_lt_sub_right (not_lt.1 hw) w.isLt
    have hg' := Nat.sub_lt_sub_right (not_lt.1 hw') w'.isLt
    have hU := congrFun (congrFun hUf ⟨w.val - fz.length, hg⟩) ⟨w'.val - fz.length, hg'⟩
    rw [Matrix.mul_apply, Matrix.one_apply] at hU
    rw [Emat_gram_apply, Matrix.one_apply, sum_over_list nb fr hfr hfrlt
      (fun b => star (embed fz fr Uf b w.val) * embed fz fr Uf b w'.val)
      (fun b hb => by rw [embed_zero_free_col fz fr Uf b w'.val hw' hb, mul_zero])]
    refine (Finset.sum_congr rfl fun i _ => ?_).trans (hU.trans (if_congr ?_ rfl rfl))
    · rw [embed_free_col _ _ _ _ _ hw, embed_free_col _ _ _ _ _ hw', hfr.idxOf_getElem i.val i.isLt,
        if_pos i.isLt, if_pos i.isLt]
      rfl
    · exact Fin.mk.inj_iff.trans ((tsub_left_inj (not_lt.1 hw) (not_lt.1 hw')).trans Fin.val_inj)

end

end WB.C24
