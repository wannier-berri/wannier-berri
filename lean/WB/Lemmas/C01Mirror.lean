/-
  C01 — inversion symmetry of the Wigner-Seitz selection (the combinatorial half of  X(-R) = X(R)†).

  The replicas searched for grid point `c` are `c + t∘mp`, `t ∈ [-ws, ws]³`.  The mirror image `-R` of such a replica
  belongs to grid point `c' = (-c) mod mp` and is searched only if `-t - u ∈ [-ws, ws]³` where `-c = c' - u∘mp`,
  `u ∈ {0,1}³` — the search box is NOT inversion symmetric as a set of replicas.  When every selected replica (for
  `s` at `c`, and for `-s` at `c'`) has its mirror image inside the box, the two selections are mirror images with
  equal `Ndegen`.  `Props/C01.lean : far_centres_not_mirror` shows that the hypothesis cannot be dropped (finding F12).
-/
import WB.Lemmas.C01Ws
import Mathlib.Data.List.Perm.Basic

namespace WB.C01

def qneg (s : QVec3) : QVec3 := (-s.1, -s.2.1, -s.2.2)

theorem qneg_qneg (s : QVec3) : qneg (qneg s) = s := by simp [qneg]
theorem vneg_vneg (R : Vec3) : vneg (vneg R) = R := by simp [vneg]

theorem dist2_neg (G : Gram) (s : QVec3) (R : Vec3) : dist2 G (qneg s) (vneg R) = dist2 G s R := by
  simp only [dist2, quad, qneg, vneg, Int.cast_neg, ← neg_add, neg_mul, mul_neg, neg_neg]

section
variable (ws : Nat) (G : Gram) (mp : Mesh) (tol : Rat) (s : QVec3) (c : Vec3)

theorem classMin_le_mirror (htol : tol ≠ 0) (c' : Vec3)
    (H : ∀ R' ∈ selClass ws G mp tol (qneg s) c', vneg R' ∈ candidates ws mp c) :
    classMin ws G mp s c ≤ classMin ws G mp (qneg s) c' := by
  obtain ⟨R', hR', hq⟩ := classMin_attained ws G mp (qneg s) c'
  have hsel : R' ∈ selClass ws G mp tol (qneg s) c' := by
    rw [mem_selClass]; exact ⟨hR', by rw [hq]; exact withinTol_self tol _ htol⟩
  have := classMin_le ws G mp s c (vneg R') (H R' hsel)
  have e : dist2 G s (vneg R') = dist2 G (qneg s) R' := by
    rw [← dist2_neg G (qneg s) R', qneg_qneg]
  rw [e, hq] at this
  exact this

/-- **mirror symmetry of one class.**  If the mirror image of every selected replica is again a searched replica
    (in both directions), the selection for `-s` at the mirror grid point is the mirror image of the selection for `s`. -/
theorem selClass_mirror (htol : tol ≠ 0) (c' : Vec3)
    (H1 : ∀ p ∈ wsClass ws G mp tol s c, vneg p.1 ∈ candidates ws mp c')
    (H2 : ∀ p ∈ wsClass ws G mp tol (qneg s) c', vneg p.1 ∈ candidates ws mp c) (R : Vec3) :
    R ∈ selClass ws G mp tol s c ↔ vneg R ∈ selClass ws G mp tol (qneg s) c' := by
  have H1 : ∀ R ∈ selClass ws G mp tol s c, vneg R ∈ candidates ws mp c' :=
    fun R hR => H1 (R, _) ((mem_wsClass ..).2 ⟨hR, rfl⟩)
  have H2 : ∀ R' ∈ selClass ws G mp tol (qneg s) c', vneg R' ∈ candidates ws mp c :=
    fun R hR => H2 (R, _) ((mem_wsClass ..).2 ⟨hR, rfl⟩)
  have hle := classMin_le_mirror ws G mp tol s c htol c' H2
  have hge : classMin ws G mp (qneg s) c' ≤ classMin ws G mp s c := by
    have := classMin_le_mirror ws G mp tol (qneg s) c' htol c (by rw [qneg_qneg]; exact H1)
    rwa [qneg_qneg] at this
  have hm : classMin ws G mp (qneg s) c' = classMin ws G mp s c := le_antisymm hge hle
  -- membership on both sides: same candidate test (H1 / H2), same distance (`dist2_neg`), same minimum (`hm`)
  constructor
  · intro h
    have h' := (mem_selClass ..).1 h
    rw [mem_selClass, dist2_neg, hm]
    exact ⟨H1 R h, h'.2⟩
  · intro h
    have h' := (mem_selClass ..).1 h
    rw [dist2_neg, hm] at h'
    rw [mem_selClass]
    refine ⟨?_, h'.2⟩
    have := H2 (vneg R) h
    rwa [vneg_vneg] at this

/-! ### duplicate-freeness of the candidate lists (needed for equal `Ndegen`) -/

theorem nodup_pm (n : Nat) : (pm n).Nodup := by
  unfold pm
  apply List.Nodup.map _ List.nodup_range
  intro a b h
  simp only at h
  omega

theorem nodup_superCells : (superCells ws).Nodup :=
  nodup_box (nodup_pm ws) (nodup_pm ws) (nodup_pm ws) id Function.injective_id

theorem nodup_candidates (h1 : 0 < mp.1) (h2 : 0 < mp.2.1) (h3 : 0 < mp.2.2) :
    (candidates ws mp c).Nodup := by
  apply List.Nodup.map _ (nodup_superCells ws)
  intro t t' h
  simp only [vadd, vscale, Prod.mk.injEq] at h
  have key : ∀ {n : Nat}, 0 < n → ∀ {x a b : Int}, x + a * n = x + b * n → a = b := fun hn _ _ _ h =>
    Int.eq_of_mul_eq_mul_right (Int.natCast_pos.2 hn).ne' (Int.add_left_cancel h)
  exact Prod.ext (key h1 h.1) (Prod.ext (key h2 h.2.1) (key h3 h.2.2))

theorem nodup_selClass (h1 : 0 < mp.1) (h2 : 0 < mp.2.1) (h3 : 0 < mp.2.2) : (selClass ws G mp tol s c).Nodup := by
  unfold selClass
  exact (nodup_candidates ws mp c h1 h2 h3).filter _

theorem selClass_mirror_length (htol : tol ≠ 0) (c' : Vec3)
    (h1 : 0 < mp.1) (h2 : 0 < mp.2.1) (h3 : 0 < mp.2.2)
    (H1 : ∀ p ∈ wsClass ws G mp tol s c, vneg p.1 ∈ candidates ws mp c')
    (H2 : ∀ p ∈ wsClass ws G mp tol (qneg s) c', vneg p.1 ∈ candidates ws mp c) :
    (selClass ws G mp tol s c).length = (selClass ws G mp tol (qneg s) c').length := by
  have hperm : ((selClass ws G mp tol s c).map vneg).Perm (selClass ws G mp tol (qneg s) c') := by
    rw [List.perm_ext_iff_of_nodup ((nodup_selClass ws G mp tol s c h1 h2 h3).map (Function.LeftInverse.injective vneg_vneg))
      (nodup_selClass ws G mp tol (qneg s) c' h1 h2 h3)]
    intro R'
    rw [List.mem_map]
    constructor
    · rintro ⟨R, hR, rfl⟩
      exact (selClass_mirror ws G mp tol s c htol c' H1 H2 R).1 hR
    · intro h
      refine ⟨vneg R', ?_, vneg_vneg R'⟩
      rw [selClass_mirror ws G mp tol s c htol c' H1 H2, vneg_vneg]
      exact h
  simpa using hperm.length_eq

end

def mirrorClass (c : Vec3) (mp : Mesh) : Vec3 := vmod (vneg c) mp

theorem vmod_vneg (R : Vec3) (mp : Mesh) : vmod (vneg R) mp = mirrorClass (vmod R mp) mp := by
  unfold mirrorClass vmod vneg
  simp only
  have key : ∀ (x : Int) (n : Int), (-x) % n = (-(x % n)) % n := by
    intro x n
    have h : -x = -(x % n) + n * (-(x / n)) := by
      have := Int.emod_add_mul_ediv x n
      rw [Int.mul_neg]
      omega
    conv_lhs => rw [h]
    exact Int.add_mul_emod_self_left _ _ _
  rw [key R.1, key R.2.1, key R.2.2]

/-- the mirror hypothesis for ALL grid points: every selected replica of `s` at `c`, and of `-s` at the mirror grid
    point, has its mirror image among the searched replicas.  Decidable for concrete input; the harness function
    `mirror_outside_box` tests its negation on the R lists of the real code. -/
def MirrorInside (ws : Nat) (G : Gram) (mp : Mesh) (tol : Rat) (s : QVec3) : Prop :=
  ∀ c ∈ gridPoints mp,
    (∀ p ∈ wsClass ws G mp tol s c, vneg p.1 ∈ candidates ws mp (mirrorClass c mp)) ∧
    (∀ p ∈ wsClass ws G mp tol (qneg s) (mirrorClass c mp), vneg p.1 ∈ candidates ws mp c)

/-- the rounded shifts of the pairs (a,b) and (b,a) are opposite -/
theorem shiftOf_swap (nd : Nat) (cs : List QVec3) (a b : Nat) : shiftOf nd cs b a = qneg (shiftOf nd cs a b) := by
  have h : ∀ x y : Rat, roundDec nd (-x + y) = -roundDec nd (-y + x) := by
    intro x y
    rw [← roundDec_neg]
    congr 1
    ring
  unfold shiftOf qneg
  exact Prod.ext (h _ _) (Prod.ext (h _ _) (h _ _))

end WB.C01
