/-
  C14 — the parallelepiped weight: the definitions `tetVol6`, `comb`, `InTet` for the 12 tetrahedra (centre + 2 triangles
  per face), their cover of the cell by axis symmetry, and the weight as the mean of 12 tetrahedron weights.
-/
import WB.Model.C14
import Mathlib.Tactic.Ring
import Mathlib.Algebra.Order.Field.Basic

namespace WB.C14
set_option linter.unusedSectionVars false

/-! ### geometry (cell = unit cube in reduced coordinates; vertex `(ix,iy,iz)` sits at `(ix,iy,iz)`, centre at ½½½) -/

/-- six times the signed volume of the tetrahedron (centre, v1, v2, v3), doubled coordinates to stay integral:
    `det(2v1-1, 2v2-1, 2v3-1) / 8` -/
def tetVol6 (t : (Nat × Nat × Nat) × (Nat × Nat × Nat) × (Nat × Nat × Nat)) : Rat :=
  let u (v : Nat × Nat × Nat) : Rat × Rat × Rat := (2 * v.1 - 1, 2 * v.2.1 - 1, 2 * v.2.2 - 1)
  let a := u t.1
  let b := u t.2.1
  let c := u t.2.2
  (a.1 * (b.2.1 * c.2.2 - b.2.2 * c.2.1) - a.2.1 * (b.1 * c.2.2 - b.2.2 * c.1)
    + a.2.2 * (b.1 * c.2.1 - b.2.1 * c.1)) / 8

variable {K : Type} [Field K] [LinearOrder K] [IsStrictOrderedRing K]

/-- the point `l0·centre + l1·v1 + l2·v2 + l3·v3` -/
def comb (t : (Nat × Nat × Nat) × (Nat × Nat × Nat) × (Nat × Nat × Nat)) (l0 l1 l2 l3 : K) : K × K × K :=
  (l0 / 2 + l1 * (t.1.1 : K) + l2 * (t.2.1.1 : K) + l3 * (t.2.2.1 : K),
   l0 / 2 + l1 * (t.1.2.1 : K) + l2 * (t.2.1.2.1 : K) + l3 * (t.2.2.2.1 : K),
   l0 / 2 + l1 * (t.1.2.2 : K) + l2 * (t.2.1.2.2 : K) + l3 * (t.2.2.2.2 : K))

/-- `p` lies in the closed tetrahedron (centre, v1, v2, v3) -/
def InTet (t : (Nat × Nat × Nat) × (Nat × Nat × Nat) × (Nat × Nat × Nat)) (p : K × K × K) : Prop :=
  ∃ l0 l1 l2 l3 : K, 0 ≤ l0 ∧ 0 ≤ l1 ∧ 0 ≤ l2 ∧ 0 ≤ l3 ∧ l0 + l1 + l2 + l3 = 1 ∧ p = comb t l0 l1 l2 l3

/-! The list of tetrahedra is closed under exchanging two coordinate axes, so it suffices to find the tetrahedron
    of a point with `x ≤ y ≤ z`. -/

def swapXY {α : Type} (v : α × α × α) : α × α × α := (v.2.1, v.1, v.2.2)
def swapYZ {α : Type} (v : α × α × α) : α × α × α := (v.1, v.2.2, v.2.1)

theorem cover_swap (σ : ∀ {α : Type}, α × α × α → α × α × α)
    (hmem : ∀ t ∈ paralTets, (σ t.1, σ t.2.1, σ t.2.2) ∈ paralTets)
    (hcomb : ∀ t (l0 l1 l2 l3 : K), comb (σ t.1, σ t.2.1, σ t.2.2) l0 l1 l2 l3 = σ (comb t l0 l1 l2 l3))
    {p : K × K × K} (h : ∃ t ∈ paralTets, InTet t p) : ∃ t ∈ paralTets, InTet t (σ p) := by
  obtain ⟨t, ht, l0, l1, l2, l3, h0, h1, h2, h3, hs, rfl⟩ := h
  exact ⟨_, hmem t ht, l0, l1, l2, l3, h0, h1, h2, h3, hs, (hcomb t l0 l1 l2 l3).symm⟩

theorem cover_swapXY {p : K × K × K} (h : ∃ t ∈ paralTets, InTet t p) : ∃ t ∈ paralTets, InTet t (swapXY p) :=
  cover_swap swapXY (by decide) (fun _ _ _ _ _ => rfl) h

theorem cover_swapYZ {p : K × K × K} (h : ∃ t ∈ paralTets, InTet t p) : ∃ t ∈ paralTets, InTet t (swapYZ p) :=
  cover_swap swapYZ (by decide) (fun _ _ _ _ _ => rfl) h

/-- the pyramid over the face `x = 0` or over the face `z = 1`: the face nearest to the point (whichever of `x`, `z` is
    farther from ½) -/
theorem cover_sorted {x y z : K} (hx0 : 0 ≤ x) (hxy : x ≤ y) (hyz : y ≤ z) (hz1 : z ≤ 1) :
    ∃ t ∈ paralTets, InTet t (x, y, z) := by
  rcases le_total (x + z) 1 with hs | hs
  · refine ⟨((0,0,0), (0,0,1), (0,1,1)), by decide, 2 * x, 1 - (x + z), z - y, y - x, mul_nonneg zero_le_two hx0,
      sub_nonneg.mpr hs, sub_nonneg.mpr hyz, sub_nonneg.mpr hxy, by ring, ?_⟩
    simp only [comb, Nat.cast_one, Nat.cast_zero, mul_zero, mul_one, add_zero]
    refine Prod.ext ?_ (Prod.ext ?_ ?_) <;> ring
  · refine ⟨((0,0,1), (0,1,1), (1,1,1)), by decide, 2 * (1 - z), z - y, y - x, x + z - 1,
      mul_nonneg zero_le_two (sub_nonneg.mpr hz1), sub_nonneg.mpr hyz, sub_nonneg.mpr hxy, sub_nonneg.mpr hs, by ring,
      ?_⟩
    simp only [comb, Nat.cast_one, Nat.cast_zero, mul_zero, mul_one, add_zero]
    refine Prod.ext ?_ (Prod.ext ?_ ?_) <;> ring

theorem paralWeight_eq_sum (dmin : K) (der : Nat) (acc : Bool) (center : K) (corner : Nat × Nat × Nat → K) (x : K) :
    paralWeight dmin der acc center corner x =
      (paralTets.map fun t => weightsTetra dmin der acc center (corner t.1) (corner t.2.1) (corner t.2.2) x).sum
        / 12 := by
  unfold paralWeight
  rw [List.sum_eq_foldl, List.foldl_map, Nat.cast_ofNat]

end WB.C14
