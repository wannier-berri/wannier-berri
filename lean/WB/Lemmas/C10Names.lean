/-
  C10 / C11: the storage-name discipline of run() (name = position in K_list at assignment time) never lets two
  K-points share a file, for fresh and restarted histories.
-/
import WB.Model.C10

namespace WB.C10

variable {K : Type}

def Stored (files : List (Nat × K)) (off : Nat) (p : NP K) : Prop :=
  p.ev = true ∧ p.name = some off ∧ lookupFile files off = some p.r

/-- the first `n` points are stored under their positions (counted from `off`), the rest is new; the shape of
    `Refined` (Lemmas/C10), for `NP` -/
def Good (files : List (Nat × K)) : Nat → Nat → List (NP K) → Prop
  | _, n, [] => n = 0
  | off, 0, p :: ps => p.ev = false ∧ Good files off 0 ps
  | off, n + 1, p :: ps => Stored files off p ∧ Good files (off + 1) n ps

def AllNamed (files : List (Nat × K)) (off : Nat) (ps : List (NP K)) : Prop := Good files off ps.length ps

theorem good_zero_iff (files : List (Nat × K)) (off : Nat) (ps : List (NP K)) :
    Good files off 0 ps ↔ ∀ p ∈ ps, p.ev = false := by
  induction ps with
  | nil => simp [Good]
  | cons p ps ih => simp [Good, ih]

theorem good_append (files : List (Nat × K)) (off : Nat) (ps cs : List (NP K)) (h : AllNamed files off ps)
    (hc : ∀ c ∈ cs, c.ev = false) : Good files off ps.length (ps ++ cs) := by
  induction ps generalizing off with
  | nil => exact (good_zero_iff _ _ cs).2 hc
  | cons p ps ih => exact ⟨h.1, ih _ h.2⟩

theorem good_removeNP (files : List (Nat × K)) (off n j : Nat) (ps : List (NP K)) (q : NP K)
    (h : Good files off n ps) (hq : ps[j]? = some q) (hev : q.ev = false) : Good files off n (removeNP j ps) := by
  induction ps generalizing off n j with
  | nil => cases hq
  | cons p ps ih =>
    cases n <;> cases j
    · exact h.2
    · exact ⟨h.1, ih _ _ _ h.2 hq⟩
    · cases hq; rw [h.1.1] at hev; cases hev
    · exact ⟨h.1, ih _ _ _ h.2 hq⟩

theorem good_deleteNew (files : List (Nat × K)) (off n : Nat) (ps : List (NP K)) (j : Nat)
    (h : Good files off n ps) : Good files off n (deleteNew ps j) := by
  unfold deleteNew
  cases hq : ps[j]? with
  | none => exact h
  | some q =>
    dsimp only
    cases hev : q.ev with
    | true => simpa using h
    | false => simpa using good_removeNP files off n j ps q h hq hev

theorem good_foldl_deleteNew (files : List (Nat × K)) (off n : Nat) (dels : List Nat) :
    ∀ (ps : List (NP K)), Good files off n ps → Good files off n (dels.foldl deleteNew ps) := by
  induction dels with
  | nil => intro ps h; exact h
  | cons j dels ih => intro ps h; exact ih _ (good_deleteNew files off n ps j h)

theorem lookupFile_cons_ne (files : List (Nat × K)) (k j : Nat) (v : K) (h : k ≠ j) :
    lookupFile ((k, v) :: files) j = lookupFile files j := by
  unfold lookupFile
  rw [List.find?_cons_of_neg (by simpa using h)]

theorem lookupFile_cons_self (files : List (Nat × K)) (k : Nat) (v : K) :
    lookupFile ((k, v) :: files) k = some v := by
  unfold lookupFile
  simp

/-- new points, all at or behind `nk_prev`: each is stored under its own name, earlier files are untouched -/
theorem named_tail (nk off : Nat) (ps : List (NP K)) (files : List (Nat × K)) (h1 : nk ≤ off)
    (h : ∀ p ∈ ps, p.ev = false) :
    ∀ out, out = processN none (assignNames nk off ps) files →
      AllNamed out.2.1 off out.1 ∧ out.2.2.2 = false ∧ ∀ j, j < off → lookupFile out.2.1 j = lookupFile files j := by
  rintro _ rfl
  induction ps generalizing off files with
  | nil => simp [assignNames, processN, AllNamed, Good]
  | cons p ps ih =>
    obtain ⟨i1, i2, i3⟩ := ih (off + 1) ((off, p.r) :: files) (by omega) (fun a ha => h a (List.mem_cons_of_mem _ ha))
    simp only [assignNames, h1, if_true, processN, h p (List.mem_cons_self ..), Bool.false_eq_true, if_false,
      Option.map_none]
    refine ⟨⟨⟨rfl, rfl, ?_⟩, i1⟩, i2, ?_⟩
    · rw [i3 off (by omega)]; exact lookupFile_cons_self ..
    · intro j hj
      rw [i3 j (by omega)]
      exact lookupFile_cons_ne _ _ _ _ (by omega)

/-- the same behind `n` evaluated points (`nk_prev` is their number) -/
theorem named_after_process (n off : Nat) (ps : List (NP K)) (files : List (Nat × K)) (h : Good files off n ps) :
    ∀ out, out = processN none (assignNames (off + n) off ps) files →
      AllNamed out.2.1 off out.1 ∧ out.2.2.2 = false ∧
        ∀ j, j < off + n → lookupFile out.2.1 j = lookupFile files j := by
  rintro _ rfl
  induction n generalizing off ps with
  | zero => exact named_tail _ off ps files (Nat.le_refl _) ((good_zero_iff ..).1 h) _ rfl
  | succ n ih =>
    cases ps with
    | nil => cases h
    | cons p ps =>
      obtain ⟨⟨h1, h2, h3⟩, h4⟩ := h
      obtain ⟨i1, i2, i3⟩ := ih (off + 1) ps h4
      rw [Nat.add_right_comm off 1 n] at i1 i2 i3
      simp only [assignNames, show ¬ (off + (n + 1) ≤ off) by omega, if_false, processN, h1, if_true]
      exact ⟨⟨⟨h1, h2, (i3 off (by omega)).trans h3⟩, i1⟩, i2, i3⟩

theorem processN_length : ∀ (ps : List (NP K)) (ctr : Option Nat) (files : List (Nat × K)),
    (processN ctr ps files).1.length = ps.length
  | [], _, _ => rfl
  | p :: ps, ctr, files => by
    cases hev : p.ev with
    | true => simp [processN, hev, processN_length ps]
    | false =>
      cases ctr with
      | some c => simp [processN, hev, processN_length ps]
      | none =>
        cases hn : p.name with
        | some n => simp [processN, hev, hn, processN_length ps]
        | none => simp [processN, hev, hn, processN_length ps]

theorem assignNames_length : ∀ (nk off : Nat) (ps : List (NP K)), (assignNames nk off ps).length = ps.length
  | _, _, [] => rfl
  | nk, off, p :: ps => by simp [assignNames, assignNames_length nk (off + 1) ps]

theorem allNamed_get (files : List (Nat × K)) (off : Nat) (ps : List (NP K)) (h : AllNamed files off ps)
    (i : Nat) (p : NP K) (hp : ps[i]? = some p) : Stored files (off + i) p := by
  induction ps generalizing off i with
  | nil => cases hp
  | cons q ps ih =>
    cases i with
    | zero => cases hp; exact h.1
    | succ i => exact Nat.add_right_comm off 1 i ▸ ih (off + 1) h.2 i hp

/-- the invariant at the end of every event, for the naming rule of the real code -/
structure NInv (s : NState K) : Prop where
  named : AllNamed s.files 0 s.pts
  nk : s.nkPrev = s.pts.length
  ok : s.err = false

theorem ninv_step (s : NState K) (e : NEvent K) (h : NInv s) : NInv (nstep NameRule.atIterStart s e) := by
  cases e with
  | restart => exact ⟨h.named, rfl, h.ok⟩
  | iter children deletes =>
    simp only [nstep, show (NameRule.atIterStart = NameRule.beforeDelete) = False by simp, if_false,
      show (NameRule.atIterStart = NameRule.perRunCounter) = False by simp, if_true]
    have hg := good_append s.files 0 s.pts (children.map (fun r => ({ r := r, ev := false, name := none } : NP K)))
      h.named (by intro c hc; obtain ⟨r, _, rfl⟩ := List.mem_map.1 hc; rfl)
    have hg2 := good_foldl_deleteNew s.files 0 s.pts.length deletes _ hg
    rw [h.nk]
    obtain ⟨i1, i2, _⟩ := named_after_process s.pts.length 0 _ s.files hg2 _ rfl
    rw [Nat.zero_add] at i1 i2
    exact ⟨i1, rfl, by rw [h.ok, i2]; rfl⟩

theorem ninv_run (events : List (NEvent K)) : NInv (nrun NameRule.atIterStart events) := by
  unfold nrun
  have h0 : NInv ({ pts := [], files := [], nkPrev := 0, counter := 0, err := false } : NState K) :=
    ⟨rfl, rfl, rfl⟩
  generalize ({ pts := [], files := [], nkPrev := 0, counter := 0, err := false } : NState K) = s0 at h0
  induction events generalizing s0 with
  | nil => exact h0
  | cons e es ih => exact ih _ (ninv_step s0 e h0)

end WB.C10
