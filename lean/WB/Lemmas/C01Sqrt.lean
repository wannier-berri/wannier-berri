/-
  C01 — the rational tolerance test of the model is the code's test on the true distances.

  The code compares distances `dist = √q`, `dist_min = √qmin`.  To avoid importing real analysis the statement is
  made in an arbitrary ordered field `K` (ℝ included) for any non-negative `a`, `b` with `a² = q`, `b² = qmin`;
  `Props/C01.lean : withinTol_is_the_code_test` puts the rational `q`, `qmin`, `tol` in.
-/
import WB.Model.C01
import Mathlib.Algebra.Order.Field.Basic
import Mathlib.Tactic.Ring
import Mathlib.Tactic.Positivity

namespace WB.C01

variable {K : Type} [Field K] [LinearOrder K] [IsStrictOrderedRing K]

theorem lt_iff_neg_or_mul_self_lt {d c : K} (hc : 0 ≤ c) : d < c ↔ d < 0 ∨ d * d < c * c := by
  by_cases hd : d < 0
  · exact iff_of_true (hd.trans_le hc) (Or.inl hd)
  · rw [or_iff_right hd, mul_self_lt_mul_self_iff (not_lt.mp hd) hc]

/-- `|a - b| < t` for `0 ≤ b ≤ a`, `0 < t`, in terms of the squares of `a` and `b` only:
    `a < b + t ⇔ a² < (b + t)² ⇔ a² - b² - t² < 2tb`, and the last bound is compared through its square -/
theorem abs_sub_lt_iff_squares {a b t : K} (hb : 0 ≤ b) (hba : b ≤ a) (ht : 0 < t) :
    |a - b| < t ↔ a * a - b * b - t * t < 0 ∨
      (a * a - b * b - t * t) * (a * a - b * b - t * t) < 4 * t * t * (b * b) := by
  have e1 : (b + t) * (b + t) = 2 * t * b + (b * b + t * t) := by ring
  have e2 : 4 * t * t * (b * b) = 2 * t * b * (2 * t * b) := by ring
  rw [abs_of_nonneg (sub_nonneg.2 hba), sub_lt_iff_lt_add',
    mul_self_lt_mul_self_iff (hb.trans hba) (add_nonneg hb ht.le), e1, ← sub_lt_iff_lt_add, ← sub_sub, e2,
    ← lt_iff_neg_or_mul_self_lt (by positivity)]

end WB.C01
