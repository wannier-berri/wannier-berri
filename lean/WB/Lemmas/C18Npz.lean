/-
  C18: the npz directory on the dictionary level (`to_npz` / `load_npz`), point symmetries and the
  point-group closure loop.
-/
import WB.Lemmas.C18Flat
import Mathlib.Tactic.Ring

namespace WB.C18

variable {A : Type}

/-! ### the saved directory -/

theorem dirGet_map_prefix (mats : List (Name × A)) (k : Name) :
    dirGet (mats.map (fun p => (xxPrefix ++ p.1, p.2))) (xxPrefix ++ k) = dirGet mats k := by
  induction mats with
  | nil => simp [dirGet]
  | cons p t ih =>
    rw [List.map_cons, dirGet_cons, dirGet_cons, ih]
    by_cases h : p.1 = k
    · simp [h]
    · have : ¬ (xxPrefix ++ p.1 = xxPrefix ++ k) := fun e => h (List.append_cancel_left e)
      simp [h, this]

theorem isPrefix_xx (k : Name) : xxPrefix.isPrefixOf (xxPrefix ++ k) = true := by
  simp [List.isPrefixOf_iff_prefix]

theorem eq_append_of_isPrefix {x : Name} (h : xxPrefix.isPrefixOf x = true) : x = xxPrefix ++ x.drop 6 := by
  rw [List.isPrefixOf_iff_prefix] at h
  obtain ⟨t, rfl⟩ := h
  simp [xxPrefix]

theorem dirGet_saveDir_prop (props mats : List (Name × A)) (k : Name) (a : A) (h : dirGet props k = some a) :
    dirGet (saveDir props mats) k = some a := by
  rw [saveDir, dirGet_append, h]; rfl

theorem dirGet_saveDir_mat (props mats : List (Name × A)) (k : Name)
    (hnop : ∀ p ∈ props, xxPrefix.isPrefixOf p.1 = false) :
    dirGet (saveDir props mats) (xxPrefix ++ k) = dirGet mats k := by
  rw [saveDir, dirGet_append, dirGet_map_prefix]
  have : dirGet props (xxPrefix ++ k) = none := dirGet_eq_none.2 (fun p hp e =>
    Bool.false_ne_true ((hnop p hp).symm.trans (e ▸ isPrefix_xx k)))
  rw [this]; rfl

/-! ### the loading loop -/

theorem loadStep_of_done (dir : List (Name × A)) (s : Loaded A) (key : Name) (h : key ∈ s.done) :
    loadStep dir s key = s := by
  rw [loadStep, if_pos (by simpa using h)]

theorem mem_done_loadStep (dir : List (Name × A)) (s : Loaded A) (key k : Name) :
    k ∈ (loadStep dir s key).done ↔ k = key ∨ k ∈ s.done := by
  by_cases hd : key ∈ s.done
  · rw [loadStep_of_done dir s key hd]
    exact ⟨Or.inr, fun h => h.elim (fun e => e ▸ hd) id⟩
  · rw [loadStep, if_neg (by simpa using hd)]
    split
    · exact List.mem_cons
    · split <;> exact List.mem_cons

theorem mem_done_foldl (dir : List (Name × A)) (k : Name) : ∀ (keys : List Name) (s : Loaded A),
    k ∈ (keys.foldl (loadStep dir) s).done ↔ k ∈ keys ∨ k ∈ s.done
  | [], _ => by simp only [List.foldl_nil, List.not_mem_nil, false_or]
  | key :: rest, s => by
    rw [List.foldl_cons, mem_done_foldl dir k rest, mem_done_loadStep, List.mem_cons, or_left_comm, ← or_assoc]

theorem attr_loadStep_of_ne (dir : List (Name × A)) (s : Loaded A) {key k : Name} (hne : key ≠ k) :
    (loadStep dir s key).attr k = s.attr k := by
  unfold loadStep
  split
  · rfl
  · split
    · rfl
    · split
      · rfl
      · exact (dirGet_cons _ _ _).trans (if_neg hne)

theorem attr_loadStep_self (dir : List (Name × A)) (s : Loaded A) {key : Name} (hd : key ∉ s.done) (hne : key ≠ nIR)
    (hf : s.attr key = none) : (loadStep dir s key).attr key = dirGet dir key := by
  rw [loadStep, if_neg (by simpa using hd)]
  split
  · next hg => rw [hg]; exact hf
  · next a hg => rw [if_neg (by simpa using hne), hg]; exact (dirGet_cons _ _ _).trans (if_pos rfl)

/-- invariant of the loading loop -/
structure LoadInv (dir : List (Name × A)) (s : Loaded A) : Prop where
  fresh : ∀ k, k ∉ s.done → s.attr k = none
  loaded : ∀ k, k ∈ s.done → k ≠ nIR → s.attr k = dirGet dir k

theorem loadStep_inv (dir : List (Name × A)) (s : Loaded A) (key : Name) (h : LoadInv dir s) :
    LoadInv dir (loadStep dir s key) := by
  by_cases hd : key ∈ s.done
  · rwa [loadStep_of_done dir s key hd]
  · refine ⟨fun k hk => ?_, fun k hk hne => ?_⟩
    · rw [mem_done_loadStep, not_or] at hk
      rw [attr_loadStep_of_ne dir s (Ne.symm hk.1)]
      exact h.fresh k hk.2
    · by_cases e : key = k
      · subst e
        exact attr_loadStep_self dir s hd hne (h.fresh key hd)
      · rw [attr_loadStep_of_ne dir s e]
        exact h.loaded k (((mem_done_loadStep dir s key k).1 hk).resolve_left (Ne.symm e)) hne

theorem loadStep_rvec_other (dir : List (Name × A)) (s : Loaded A) (key : Name) (h : key ≠ nIR) :
    (loadStep dir s key).rvec = s.rvec := by
  unfold loadStep
  split
  · rfl
  · split
    · rfl
    · have hi : ¬ ((key == nIR) = true) := by simpa using h
      simp only [hi, Bool.false_eq_true, if_false]

theorem loadStep_rvec_at (dir : List (Name × A)) (s : Loaded A) (a : A) (h : nIR ∉ s.done)
    (hg : dirGet dir nIR = some a) :
    (loadStep dir s nIR).rvec = some (s.attr nLat, a, s.attr nWcc) := by
  rw [loadStep, if_neg (by simpa using h), hg]
  rfl

structure LoadInvAfterCentres (dir : List (Name × A)) (s : Loaded A) (L W I : A) : Prop extends LoadInv dir s where
  lat : nLat ∈ s.done
  wcc : nWcc ∈ s.done
  rv : nIR ∈ s.done → s.rvec = some (some L, I, some W)

section
variable {dir : List (Name × A)} {L W I : A}
  (hL : dirGet dir nLat = some L) (hW : dirGet dir nWcc = some W) (hI : dirGet dir nIR = some I)
include hL hW hI

theorem LoadInvAfterCentres.step (s : Loaded A) (key : Name) (h : LoadInvAfterCentres dir s L W I) :
    LoadInvAfterCentres dir (loadStep dir s key) L W I := by
  refine { toLoadInv := loadStep_inv dir s key h.toLoadInv, lat := (mem_done_loadStep ..).2 (Or.inr h.lat),
           wcc := (mem_done_loadStep ..).2 (Or.inr h.wcc), rv := fun hdone => ?_ }
  by_cases hold : nIR ∈ s.done
  · by_cases hk : key = nIR
    · rw [hk, loadStep_of_done dir s nIR hold]; exact h.rv hold
    · rw [loadStep_rvec_other dir s key hk]; exact h.rv hold
  · -- this step loads `iRvec`: lattice and centres are set already
    obtain rfl : key = nIR := (((mem_done_loadStep ..).1 hdone).resolve_right hold).symm
    rw [loadStep_rvec_at dir s I hold hI, h.loaded nLat h.lat (by decide), h.loaded nWcc h.wcc (by decide), hL, hW]

theorem LoadInvAfterCentres.foldl : ∀ (keys : List Name) (s : Loaded A), LoadInvAfterCentres dir s L W I →
    LoadInvAfterCentres dir (keys.foldl (loadStep dir) s) L W I
  | [], _, h => h
  | key :: rest, s, h => LoadInvAfterCentres.foldl rest _ (LoadInvAfterCentres.step hL hW hI s key h)

omit hL hW hI in
theorem LoadInvAfterCentres.setMats {s : Loaded A} (h : LoadInvAfterCentres dir s L W I) (m : List (Name × A)) :
    LoadInvAfterCentres dir { s with mats := m } L W I :=
  ⟨⟨h.fresh, h.loaded⟩, h.lat, h.wcc, h.rv⟩

theorem loadDir_inv (listing : List Name) : LoadInvAfterCentres dir (loadDir dir listing) L W I := by
  have hd2 : ∀ k, k ∈ (loadStep dir (loadStep dir ⟨[], none, [], []⟩ nLat) nWcc).done ↔ k = nWcc ∨ k = nLat :=
    fun k => by rw [mem_done_loadStep, mem_done_loadStep, or_iff_left (List.not_mem_nil (a := k))]
  exact (LoadInvAfterCentres.foldl hL hW hI (listing.filter (fun x => !(xxPrefix.isPrefixOf x))) _
    { toLoadInv := loadStep_inv dir _ nWcc
        (loadStep_inv dir ⟨[], none, [], []⟩ nLat ⟨fun _ _ => rfl, fun _ hk => nomatch hk⟩)
      lat := (hd2 _).2 (Or.inr rfl), wcc := (hd2 _).2 (Or.inl rfl)
      rv := fun h => absurd ((hd2 _).1 h) (by decide) }).setMats _

end

theorem mem_done_loadDir (dir : List (Name × A)) (listing : List Name) {k : Name} (hk : k ∈ listing)
    (hp : xxPrefix.isPrefixOf k = false) : k ∈ (loadDir dir listing).done := by
  simp only [loadDir]
  exact (mem_done_foldl ..).2 (Or.inl (List.mem_cons_of_mem _ (List.mem_cons_of_mem _
    (List.mem_filter.2 ⟨hk, by rw [hp]; rfl⟩))))

theorem mem_loadDir_mats (dir : List (Name × A)) (listing : List Name) (k : Name) (a : A) :
    (k, a) ∈ (loadDir dir listing).mats ↔ xxPrefix ++ k ∈ listing ∧ dirGet dir (xxPrefix ++ k) = some a := by
  simp only [loadDir, List.mem_filterMap, List.mem_map, List.mem_filter, Option.map_eq_some_iff, Prod.mk.injEq]
  constructor
  · rintro ⟨_, ⟨x, ⟨hx, hp⟩, rfl⟩, _, ha, rfl, rfl⟩
    rw [← eq_append_of_isPrefix hp] at ha ⊢
    exact ⟨hx, ha⟩
  · rintro ⟨hx, ha⟩
    exact ⟨k, ⟨_, ⟨hx, isPrefix_xx k⟩, List.drop_left' rfl⟩, a, ha, rfl, rfl⟩

/-! ### group closure -/

section closure
variable {G : Type} (mul : G → G → G) (eqv : G → G → Bool)

section
variable (l : List G) (hc : ∀ a ∈ l, ∀ b ∈ l, l.any (fun x => eqv (mul a b) x) = true)
include hc

theorem inner_closed (i : Nat) (hi : i < l.length) :
    ∀ fuel j, l.length - j < fuel → inner mul eqv fuel l i j = some l
  | 0, j, h => by omega
  | fuel + 1, j, h => by
    rw [inner, List.getElem?_eq_getElem hi]
    by_cases hj : j < l.length
    · rw [List.getElem?_eq_getElem hj]
      simp only
      rw [if_pos (hc _ (List.getElem_mem hi) _ (List.getElem_mem hj))]
      exact inner_closed i hi fuel (j + 1) (by omega)
    · rw [List.getElem?_eq_none (by omega)]

theorem outer_closed (fuel : Nat) (hf : l.length < fuel) :
    ∀ k i, l.length - i < k → outer mul eqv fuel k l i = some l
  | 0, i, h => by omega
  | k + 1, i, h => by
    rw [outer]
    by_cases hi : i < l.length
    · rw [if_pos hi, inner_closed mul eqv l hc i hi fuel 0 (by omega)]
      exact outer_closed fuel hf k (i + 1) (by omega)
    · rw [if_neg hi]

theorem closure_closed (fuel k : Nat) (hf : l.length < fuel) : closure mul eqv fuel (k + 1) l = some l := by
  rw [closure, outer_closed mul eqv l hc fuel hf fuel 0 (by omega)]
  exact if_pos rfl

end

theorem dedupGens_fixed (l : List G) (h : l.Pairwise (fun y x => eqv x y = false)) : dedupGens eqv l = l :=
  foldl_eq_append _ _ (fun acc x hx => by
    rw [List.any_eq_false.2 (fun y hy => Bool.eq_false_iff.1 (hx y hy)), if_neg Bool.false_ne_true]) l [] h

end closure

/-! ### point symmetries -/

theorem det3_neg {K : Type} [CommRing K] (R : M3 K) : det3 (fun i j => - R i j) = - det3 R := by
  unfold det3; ring

end WB.C18
