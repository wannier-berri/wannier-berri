/-
  Helper lemmas for C04 (and C05): unitary conjugation of matrix blocks, covariance of the building blocks of the
  gauge-covariant formulas, the bridge from the index-function model of `Data_K._rotate` to Mathlib matrices, and
  product chains (`FormulaProduct`).
-/
import WB.Model.C04
import Mathlib.LinearAlgebra.Matrix.Trace
import Mathlib.LinearAlgebra.Matrix.ConjTranspose
import Mathlib.Algebra.BigOperators.Fin
import Mathlib.Algebra.Field.Basic
import Mathlib.Tactic.Ring

namespace WB.C04
open Matrix

variable {K : Type} [Field K] [StarRing K]
variable {n : ℕ}

/-- the gauge change of a block: `Uᴴ X W` (inner unitary `U` on the rows, unitary `W` on the columns) -/
def cj {p q : ℕ} (U : Matrix (Fin p) (Fin p) K) (W : Matrix (Fin q) (Fin q) K) (X : Matrix (Fin p) (Fin q) K) :
    Matrix (Fin p) (Fin q) K := Uᴴ * X * W

section cj
variable {p q r : ℕ} (U : Matrix (Fin p) (Fin p) K) (W : Matrix (Fin q) (Fin q) K)

theorem cj_zero : cj U W 0 = 0 := by
  unfold cj; rw [Matrix.mul_zero, Matrix.zero_mul]

theorem cj_add (X Y : Matrix (Fin p) (Fin q) K) : cj U W (X + Y) = cj U W X + cj U W Y := by
  unfold cj; rw [Matrix.mul_add, Matrix.add_mul]

theorem cj_sub (X Y : Matrix (Fin p) (Fin q) K) : cj U W (X - Y) = cj U W X - cj U W Y := by
  unfold cj; rw [Matrix.mul_sub, Matrix.sub_mul]

theorem cj_neg (X : Matrix (Fin p) (Fin q) K) : cj U W (-X) = -cj U W X := by
  unfold cj; rw [Matrix.mul_neg, Matrix.neg_mul]

theorem cj_smul (c : K) (X : Matrix (Fin p) (Fin q) K) : cj U W (c • X) = c • cj U W X := by
  unfold cj; rw [Matrix.mul_smul, Matrix.smul_mul]

theorem mul_conjTranspose_cancel {W : Matrix (Fin q) (Fin q) K} (hW : W * Wᴴ = 1) (T : Matrix (Fin q) (Fin r) K) :
    W * (Wᴴ * T) = T := by
  rw [← Matrix.mul_assoc, hW, Matrix.one_mul]

/-- products: the unitary in the middle drops out -/
theorem cj_mul (Z : Matrix (Fin r) (Fin r) K) (hW : W * Wᴴ = 1)
    (X : Matrix (Fin p) (Fin q) K) (Y : Matrix (Fin q) (Fin r) K) :
    cj U W X * cj W Z Y = cj U Z (X * Y) := by
  unfold cj
  simp only [Matrix.mul_assoc, mul_conjTranspose_cancel hW]

theorem cj_conjTranspose (X : Matrix (Fin p) (Fin q) K) : (cj U W X)ᴴ = cj W U Xᴴ := by
  unfold cj
  rw [Matrix.conjTranspose_mul, Matrix.conjTranspose_mul, Matrix.conjTranspose_conjTranspose, Matrix.mul_assoc]

theorem trace_cj (U X : Matrix (Fin n) (Fin n) K) (hU : U * Uᴴ = 1) : (cj U U X).trace = X.trace := by
  unfold cj
  rw [Matrix.trace_mul_comm, mul_conjTranspose_cancel hU]

/-- labels: band energies in `dEig_inv`, Wannier centres in `cRvec_shifted`; in every surviving term of the double sum
    the labels can be replaced by those of the target entry -/
theorem cj_had {Lab : Type*} (X : Matrix (Fin p) (Fin q) K) (lr : Fin p → Lab) (lc : Fin q → Lab)
    (φ : Lab → Lab → K) (hU : ∀ i j, U i j ≠ 0 → lr i = lr j) (hW : ∀ i j, W i j ≠ 0 → lc i = lc j) :
    cj U W (Matrix.of fun i j => X i j * φ (lr i) (lc j))
      = Matrix.of fun a b => cj U W X a b * φ (lr a) (lc b) := by
  ext a b
  simp only [cj, Matrix.mul_apply, Matrix.conjTranspose_apply, Matrix.of_apply, Finset.sum_mul]
  refine Finset.sum_congr rfl fun x _ => Finset.sum_congr rfl fun y _ => ?_
  by_cases h1 : U y a = 0
  · simp only [h1, star_zero, zero_mul]
  by_cases h2 : W x b = 0
  · simp only [h2, mul_zero, zero_mul]
  rw [hU y a h1, hW x b h2]; ring

end cj

omit [Field K] [StarRing K] in
theorem conjTranspose_fin_two [Star K] (a b c d : K) :
    (!![a, b; c, d] : Matrix (Fin 2) (Fin 2) K)ᴴ = !![star a, star c; star b, star d] :=
  Matrix.eta_fin_two _

theorem rot90_unitary :
    (!![0, 1; -1, 0] : Matrix (Fin 2) (Fin 2) K) * (!![0, 1; -1, 0] : Matrix (Fin 2) (Fin 2) K)ᴴ = 1 := by
  rw [conjTranspose_fin_two, Matrix.mul_fin_two, Matrix.one_fin_two]
  simp only [star_zero, star_one, star_neg, mul_zero, mul_one, zero_add, add_zero, neg_neg, neg_zero, mul_neg]

/-! ### index functions as matrices -/

/-- an index-function block as a Mathlib matrix -/
def toMat (p q : ℕ) (f : ℕ → ℕ → K) : Matrix (Fin p) (Fin q) K := Matrix.of fun i j => f i j

def toM (m : ℕ) (X : ℕ → ℕ → K) : Matrix (Fin m) (Fin m) K := Matrix.of fun i j : Fin m => X i j

omit [StarRing K] in
theorem sumRange_eq (m : ℕ) (f : ℕ → K) : sumRange m f = ∑ i : Fin m, f i := by
  rw [Fin.sum_univ_def, sumRange, ← List.map_coe_finRange_eq_range, List.map_map]
  rfl

omit [StarRing K] in
theorem toMat_mul (p m q : ℕ) (A B : ℕ → ℕ → K) :
    toMat p q (fun i j => sumRange m fun t => A i t * B t j) = toMat p m A * toMat m q B := by
  ext i j
  exact sumRange_eq m _

omit [StarRing K] in
theorem toM_mulM (m : ℕ) (A B : ℕ → ℕ → K) : toM m (mulM m A B) = toM m A * toM m B := toMat_mul m m m A B

omit [StarRing K] in
theorem traceM_eq (m : ℕ) (X : ℕ → ℕ → K) : traceM m X = (toM m X).trace := sumRange_eq m _

/-- the model of `Data_K._rotate` is `Uᴴ X U` -/
theorem rotate_eq (m : ℕ) (U X : ℕ → ℕ → K) (a d : Fin m) :
    rotate star m U X a d =
      ((Matrix.of fun i j : Fin m => U i j)ᴴ * (Matrix.of fun i j : Fin m => X i j)
        * (Matrix.of fun i j : Fin m => U i j)) a d := by
  unfold rotate
  simp only [sumRange_eq, Matrix.mul_apply, Matrix.conjTranspose_apply, Matrix.of_apply, Finset.sum_mul]
  rw [Finset.sum_comm]

theorem toM_rotate (m : ℕ) (U X : ℕ → ℕ → K) : toM m (rotate star m U X) = cj (toM m U) (toM m U) (toM m X) := by
  ext a d
  exact rotate_eq m U X a d

/-! ### product chains (`FormulaProduct`) -/

/-- `FormulaProduct.nn` on matrices: `res = M₀; for M in rest: res = res * M` -/
def productChain {p : ℕ} (M0 : Matrix (Fin p) (Fin p) K) (rest : List (Matrix (Fin p) (Fin p) K)) :
    Matrix (Fin p) (Fin p) K := rest.foldl (· * ·) M0

omit [StarRing K] in
theorem prod_cons_eq_productChain {p : ℕ} (M0 : Matrix (Fin p) (Fin p) K) (rest : List (Matrix (Fin p) (Fin p) K)) :
    (M0 :: rest).prod = productChain M0 rest := by
  rw [productChain, List.prod_eq_foldl, List.foldl_cons, one_mul]

omit [StarRing K] in
theorem toM_chainM (m : ℕ) (M0 : ℕ → ℕ → K) (rest : List (ℕ → ℕ → K)) :
    toM m (chainM m M0 rest) = productChain (toM m M0) (rest.map (toM m)) := by
  unfold chainM productChain
  induction rest generalizing M0 with
  | nil => rfl
  | cons X Xs ih => rw [List.foldl_cons, List.map_cons, List.foldl_cons, ih, toM_mulM]

theorem productChain_cj {p : ℕ} (U : Matrix (Fin p) (Fin p) K) (hU : U * Uᴴ = 1)
    (M0 : Matrix (Fin p) (Fin p) K) (rest : List (Matrix (Fin p) (Fin p) K)) :
    productChain (cj U U M0) (rest.map (cj U U)) = cj U U (productChain M0 rest) := by
  unfold productChain
  induction rest generalizing M0 with
  | nil => rfl
  | cons X Xs ih => rw [List.map_cons, List.foldl_cons, List.foldl_cons, cj_mul U U U hU, ih]

end WB.C04
