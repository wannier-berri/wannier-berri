/-
  C07: the structure terms of the calculators are `WB.C07.Term.*` in `WB/Model/C07.lean` (core Lean only, so that the
  regenerated table check loads fast).  This module declares nothing: it is the name under which the terms are cited,
  and brings them together with the expression calculus whose grades they carry.
-/
import WB.Model.C07
import WB.Lemmas.C07Expr
