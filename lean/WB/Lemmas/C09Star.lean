/-
  C09: the action on reduced vectors, integrality (lattice invariance, symmetric grids) and the star of a k-point.
-/
import WB.Lemmas.C09Alg
import Mathlib.Data.Rat.Defs
import Mathlib.Data.Rat.Cast.Defs
import Mathlib.Algebra.Order.Field.Rat
import Mathlib.Tactic.FieldSimp
import Mathlib.Tactic.LinearCombination

namespace WB.C09

/-- the action on reduced vectors does not depend on how the sign is split between stored part and inversion flag -/
theorem PSym.transformReduced_eq {F : Type} [Field F] (g : PSym F) (v : Vec F) (B : Mat F) :
    g.transformReduced v B = fun j => vecMat v (matMul (matMul B (matT g.full)) (matInv B)) j * sgn g.tr := by
  funext j
  rw [PSym.full, matT_matScale, matMul_matScale_right, matMul_matScale_left]
  simp only [PSym.transformReduced, PSym.redMat, vecMat, matScale, sum3]
  ring

section RedAction
variable {F : Type} [Field F] [LinearOrder F] [IsStrictOrderedRing F]

theorem PSym.transformReduced_mul (g h : PSym F) (B : Mat F) (hB : det3 B ≠ 0) (v : Vec F) :
    (g.mul h).transformReduced v B = g.transformReduced (h.transformReduced v B) B := by
  have e : matMul (matMul B (matMul (matT h.full) (matT g.full))) (matInv B)
      = matMul (matMul (matMul B (matT h.full)) (matInv B)) (matMul (matMul B (matT g.full)) (matInv B)) := by
    simp only [matMul_assoc]
    rw [← matMul_assoc (matInv B) B, matInv_matMul B hB, matMul_id_left]
  rw [PSym.transformReduced_eq, PSym.transformReduced_eq g, PSym.transformReduced_eq h, PSym.full_mul, PSym.tr_mul,
    sgn_xor, matT_matMul, e, vecMat_matMul]
  generalize matMul (matMul B (matT h.full)) (matInv B) = Mh
  generalize matMul (matMul B (matT g.full)) (matInv B) = Mg
  funext j
  simp only [vecMat, sum3]
  ring

theorem PSym.transformReduced_identity (B : Mat F) (hB : det3 B ≠ 0) (v : Vec F) :
    (PSym.identity : PSym F).transformReduced v B = v := by
  funext j
  rw [PSym.identity_eq]
  unfold PSym.transformReduced PSym.redMat
  simp only [matT_matId, matMul_id_right, matMul_matInv B hB, sgn, Bool.false_eq_true, reduceIte, mul_one]
  exact sum3_ite_right j v

end RedAction

theorem isInt_iff (q : Rat) : isInt q = true ↔ ∃ z : Int, q = z := by
  unfold isInt
  simp only [beq_iff_eq]
  constructor
  · intro h; exact ⟨q.num, (Rat.coe_int_num_of_den_eq_one h).symm⟩
  · rintro ⟨z, rfl⟩; exact Rat.den_intCast z

theorem isInt_intCast (z : Int) : isInt (z : Rat) = true := (isInt_iff _).2 ⟨z, rfl⟩

theorem isInt_zero : isInt 0 = true := isInt_intCast 0

theorem isInt_add {a b : Rat} (ha : isInt a = true) (hb : isInt b = true) : isInt (a + b) = true := by
  obtain ⟨x, rfl⟩ := (isInt_iff _).1 ha
  obtain ⟨y, rfl⟩ := (isInt_iff _).1 hb
  exact_mod_cast isInt_intCast (x + y)

theorem isInt_mul {a b : Rat} (ha : isInt a = true) (hb : isInt b = true) : isInt (a * b) = true := by
  obtain ⟨x, rfl⟩ := (isInt_iff _).1 ha
  obtain ⟨y, rfl⟩ := (isInt_iff _).1 hb
  exact_mod_cast isInt_intCast (x * y)

theorem isInt_neg {a : Rat} (ha : isInt a = true) : isInt (-a) = true := by
  obtain ⟨x, rfl⟩ := (isInt_iff _).1 ha
  exact_mod_cast isInt_intCast (-x)

theorem isInt_sub {a b : Rat} (ha : isInt a = true) (hb : isInt b = true) : isInt (a - b) = true := by
  rw [sub_eq_add_neg]; exact isInt_add ha (isInt_neg hb)

theorem transformReduced_unit (g : PSym Rat) (B : Mat Rat) (i j : Fin 3) :
    g.transformReduced (unitVec i) B j = g.redMat B i j * (sgn g.tr * sgn g.inv) :=
  congrArg (· * _) (sum3_ite_left i fun k => g.redMat B k j)

theorem transformReduced_lin (g : PSym Rat) (B : Mat Rat) (v : Vec Rat) (j : Fin 3) :
    g.transformReduced v B j =
      v 0 * g.transformReduced (unitVec 0) B j + v 1 * g.transformReduced (unitVec 1) B j
        + v 2 * g.transformReduced (unitVec 2) B j := by
  rw [transformReduced_unit, transformReduced_unit, transformReduced_unit]
  unfold PSym.transformReduced vecMat sum3
  ring

theorem checkBasis_iff (L : List (PSym Rat)) (B : Mat Rat) :
    checkBasis L B = true ↔ ∀ g ∈ L, ∀ i j, isInt (g.transformReduced (unitVec i) B j) = true := by
  unfold checkBasis
  simp only [List.all_eq_true, List.mem_finRange, forall_const]

theorem transformReduced_isInt (g : PSym Rat) (B : Mat Rat)
    (hb : ∀ i j, isInt (g.transformReduced (unitVec i) B j) = true) (n : Vec Rat)
    (hn : ∀ i, isInt (n i) = true) (j : Fin 3) : isInt (g.transformReduced n B j) = true := by
  rw [transformReduced_lin]
  exact isInt_add (isInt_add (isInt_mul (hn 0) (hb 0 j)) (isInt_mul (hn 1) (hb 1 j))) (isInt_mul (hn 2) (hb 2 j))

/-- `(D⁻¹ B)⁻¹ = B⁻¹ D`, checked by multiplying out -/
theorem matInv_rowscale (B : Mat Rat) (nk : Vec Rat) (hnk : ∀ i, nk i ≠ 0) (hB : det3 B ≠ 0) :
    matInv (fun a b => B a b / nk a) = fun i j => matInv B i j * nk j := by
  apply matInv_eq_of_matMul_eq_id
  funext i j
  have h := congrFun (congrFun (matMul_matInv B hB) i) j
  simp only [matMul, sum3, matId] at h ⊢
  by_cases hij : i = j
  · subst hij
    have := hnk i
    rw [if_pos rfl] at h ⊢
    rw [← h]; field_simp
  · rw [if_neg hij] at h ⊢
    linear_combination (nk j / nk i) * h

theorem redMat_rowscale (g : PSym Rat) (B : Mat Rat) (nk : Vec Rat) (hnk : ∀ i, nk i ≠ 0) (hB : det3 B ≠ 0)
    (i j : Fin 3) :
    g.redMat (fun a b => B a b / nk a) i j = g.redMat B i j * nk j / nk i := by
  unfold PSym.redMat
  rw [matInv_rowscale B nk hnk hB]
  simp only [matMul, sum3]
  ring

theorem symmetricGrid_maps_grid_aux (L : List (PSym Rat)) (B : Mat Rat) (nk : Vec Rat)
    (hnk : ∀ i, nk i ≠ 0) (hB : det3 B ≠ 0) (h : symmetricGrid L B nk = true)
    (g : PSym Rat) (hg : g ∈ L) (m : Vec Rat) (hm : ∀ i, isInt (m i) = true) (j : Fin 3) :
    isInt (g.transformReduced (fun i => m i / nk i) B j * nk j) = true := by
  have key : g.transformReduced (fun i => m i / nk i) B j * nk j
      = g.transformReduced m (fun a b => B a b / nk a) j := by
    unfold PSym.transformReduced vecMat sum3
    simp only [redMat_rowscale g B nk hnk hB]
    ring
  rw [key]
  exact transformReduced_isInt g _ ((checkBasis_iff L _).1 h g hg) m hm j

theorem equivMod1_iff (u v : Vec Rat) : equivMod1 u v = true ↔ ∀ i, isInt (u i - v i) = true := by
  unfold equivMod1
  simp only [List.all_eq_true, List.mem_finRange, forall_const]

theorem equivMod1_refl (u : Vec Rat) : equivMod1 u u = true := by
  rw [equivMod1_iff]; intro i; rw [sub_self]; exact isInt_zero

theorem equivMod1_symm {u v : Vec Rat} (h : equivMod1 u v = true) : equivMod1 v u = true := by
  rw [equivMod1_iff] at h ⊢
  intro i
  have := isInt_neg (h i)
  rwa [neg_sub] at this

theorem equivMod1_trans {u v w : Vec Rat} (h1 : equivMod1 u v = true) (h2 : equivMod1 v w = true) :
    equivMod1 u w = true := by
  rw [equivMod1_iff] at h1 h2 ⊢
  intro i
  have := isInt_add (h1 i) (h2 i)
  rwa [sub_add_sub_cancel] at this

theorem starFilter_sublist : ∀ (seen l : List (Vec Rat)), (starFilter seen l).Sublist l
  | _, [] => by simp [starFilter]
  | seen, x :: rest => by
    unfold starFilter
    split
    · exact (starFilter_sublist _ rest).cons _
    · exact (starFilter_sublist _ rest).cons_cons _

theorem starFilter_inequiv : ∀ (seen l : List (Vec Rat)),
    (starFilter seen l).Pairwise (fun u v => equivMod1 u v = false) ∧
      ∀ y ∈ seen, ∀ x ∈ starFilter seen l, equivMod1 y x = false
  | _, [] => by simp [starFilter]
  | seen, x :: rest => by
    obtain ⟨ih1, ih2⟩ := starFilter_inequiv (seen ++ [x]) rest
    unfold starFilter
    split
    · exact ⟨ih1, fun y hy z hz => ih2 y (List.mem_append_left _ hy) z hz⟩
    · rename_i hnot
      refine ⟨List.pairwise_cons.2 ⟨fun z hz => ih2 x (by simp) z hz, ih1⟩, ?_⟩
      intro y hy z hz
      rcases List.mem_cons.1 hz with rfl | hz
      · have := hnot
        simp only [List.any_eq_true, not_exists, not_and] at this
        have := this y hy
        simpa using this
      · exact ih2 y (List.mem_append_left _ hy) z hz

theorem starFilter_cover : ∀ (seen l : List (Vec Rat)), ∀ x ∈ l,
    ∃ y, (y ∈ seen ∨ y ∈ starFilter seen l) ∧ equivMod1 y x = true
  | _, [], x, hx => by simp at hx
  | seen, x0 :: rest, x, hx => by
    -- the head is represented by something seen before, or it is kept
    have h0 : ∃ y, (y ∈ seen ∨ y ∈ starFilter seen (x0 :: rest)) ∧ equivMod1 y x0 = true := by
      unfold starFilter
      split
      · rename_i hany
        obtain ⟨s, hs, hsx⟩ := List.any_eq_true.1 hany
        exact ⟨s, Or.inl hs, hsx⟩
      · exact ⟨x0, Or.inr List.mem_cons_self, equivMod1_refl x0⟩
    rcases List.mem_cons.1 hx with rfl | hx
    · exact h0
    · obtain ⟨y, hy | hy, hyx⟩ := starFilter_cover (seen ++ [x0]) rest x hx
      · rcases List.mem_append.1 hy with hy | hy
        · exact ⟨y, Or.inl hy, hyx⟩
        · obtain ⟨s, hs, hsx0⟩ := h0
          rw [List.mem_singleton.1 hy] at hyx
          exact ⟨s, hs, equivMod1_trans hsx0 hyx⟩
      · refine ⟨y, Or.inr ?_, hyx⟩
        unfold starFilter
        split
        · exact hy
        · exact List.mem_cons_of_mem _ hy

theorem starFilter_first : ∀ (seen pre : List (Vec Rat)) (x : Vec Rat) (post : List (Vec Rat)),
    (∀ y ∈ seen ++ pre, equivMod1 y x = false) → x ∈ starFilter seen (pre ++ x :: post)
  | seen, [], x, post, h => by
    have : ¬ (seen.any (fun y => equivMod1 y x) = true) := by simpa using h
    simp [starFilter, this]
  | seen, p :: pre, x, post, h => by
    have ih := starFilter_first (seen ++ [p]) pre x post (by simpa using h)
    simp only [List.cons_append, starFilter]
    split
    · exact ih
    · exact List.mem_cons_of_mem _ ih

end WB.C09
