/-
  C19: npz dictionaries — `dic_to_keydic` / `keydic_to_dic`, `as_dict` / `from_dict`, `equals` — and `to_npz` of a
  container (`saveTo`, `wrun`).
-/
import WB.Model.C19
import WB.Lemmas.C18Flat
import Mathlib.Data.List.Nodup

namespace WB.C19
open WB.C18

variable {A : Type}

/-! ### lists with distinct keys -/

theorem filterMap_eq_map_of_some {α β : Type} (h : α → Option β) (g : α → β) :
    ∀ l : List α, (∀ p ∈ l, h p = some (g p)) → l.filterMap h = l.map g
  | [], _ => rfl
  | a :: t, hl => by
    rw [List.filterMap_cons, hl a List.mem_cons_self, List.map_cons,
      filterMap_eq_map_of_some h g t (fun p hp => hl p (List.mem_cons_of_mem _ hp))]

theorem dictOf_nodup (l : List (Name × A)) (h : (l.map (·.1)).Nodup) : dictOf l = l :=
  foldl_eq_append dictInsert (fun q p => q.1 ≠ p.1) (fun acc p hp => by
    rw [dictInsert, List.any_eq_false.2 (fun q hq => by simpa using hp q hq), if_neg Bool.false_ne_true])
    l [] (List.pairwise_map.1 h)

theorem dirGet_of_mem_nodup {l : List (Name × A)} (hnd : (l.map (·.1)).Nodup) {k : Name} {a : A}
    (h : (k, a) ∈ l) : dirGet l k = some a := by
  obtain ⟨a', ha'⟩ := Option.isSome_iff_exists.1 (dirGet_isSome_of_mem (List.mem_map.2 ⟨_, h, rfl⟩))
  rw [ha', (Prod.mk.inj (List.inj_on_of_nodup_map hnd (dirGet_mem ha') h rfl)).2]

/-! ### keys -/

variable (render : Int → Name) (parse : Name → Int)

theorem keyOf_eq (t : Name) (k : Int) : keyOf render t k = (t ++ ['_']) ++ render k := by
  simp [keyOf]

theorem isPrefix_keyOf (t : Name) (k : Int) : (t ++ ['_']).isPrefixOf (keyOf render t k) = true := by
  rw [keyOf_eq, List.isPrefixOf_iff_prefix]
  exact List.prefix_append _ _

theorem drop_keyOf (t : Name) (k : Int) : (keyOf render t k).drop (t.length + 1) = render k := by
  rw [keyOf_eq]
  have : t.length + 1 = (t ++ ['_']).length := by simp
  rw [this, List.drop_left]

theorem keydicToDic_append (t : Name) (a b : List (Name × A)) :
    keydicToDic parse t (a ++ b) = keydicToDic parse t a ++ keydicToDic parse t b := by
  simp [keydicToDic, List.filter_append]

theorem keydicToDic_none (t : Name) (l : List (Name × A)) (h : ∀ p ∈ l, (t ++ ['_']).isPrefixOf p.1 = false) :
    keydicToDic parse t l = [] := by
  unfold keydicToDic
  rw [List.filter_eq_nil_iff.mpr (fun p hp => by simp [h p hp])]
  rfl

theorem keydicToDic_own (hpr : ∀ k, parse (render k) = k) (t : Name) (d : List (Int × A)) :
    keydicToDic parse t (dicToKeydic render t d) = d := by
  induction d with
  | nil => rfl
  | cons p rest ih =>
    have hc : dicToKeydic render t (p :: rest) = [(keyOf render t p.1, p.2)] ++ dicToKeydic render t rest := rfl
    rw [hc, keydicToDic_append, ih]
    simp [keydicToDic, isPrefix_keyOf, drop_keyOf, hpr]

theorem keydicToDic_flatMap_others (t : Name) (dicts : List (Name × List (Int × A)))
    (hsep : ∀ u ∈ dicts, ∀ k, (t ++ ['_']).isPrefixOf (keyOf render u.1 k) = false) :
    keydicToDic parse t (dicts.flatMap (fun u => dicToKeydic render u.1 u.2)) = [] :=
  keydicToDic_none parse t _ (fun p hp => by
    obtain ⟨u, hu, hp⟩ := List.mem_flatMap.1 hp
    obtain ⟨q, -, rfl⟩ := List.mem_map.1 hp
    exact hsep u hu q.1)

/-! ### `from_dict ∘ as_dict` -/

theorem keydicToDic_stored (hpr : ∀ k, parse (render k) = k) (tags : List (Name × A))
    (dicts : List (Name × List (Int × A))) (t : Name) (d : List (Int × A)) (hmem : (t, d) ∈ dicts)
    (hnd : (dicts.map (·.1)).Nodup) (htags : ∀ p ∈ tags, (t ++ ['_']).isPrefixOf p.1 = false)
    (hsep : ∀ u ∈ dicts, u.1 ≠ t → ∀ k, (t ++ ['_']).isPrefixOf (keyOf render u.1 k) = false) :
    keydicToDic parse t (tags ++ dicts.flatMap (fun u => dicToKeydic render u.1 u.2)) = d := by
  obtain ⟨pre, post, rfl⟩ := List.append_of_mem hmem
  rw [List.map_append, List.map_cons, List.nodup_middle, List.nodup_cons, ← List.map_append] at hnd
  have hne : ∀ v ∈ pre ++ post, v.1 ≠ t := fun v hv e => hnd.1 (List.mem_map.2 ⟨v, hv, e⟩)
  rw [List.flatMap_append, List.flatMap_cons, keydicToDic_append, keydicToDic_append, keydicToDic_append,
    keydicToDic_none parse t tags htags, keydicToDic_own render parse hpr,
    keydicToDic_flatMap_others render parse t pre (fun u hu =>
      hsep u (List.mem_append_left _ hu) (hne u (List.mem_append_left _ hu))),
    keydicToDic_flatMap_others render parse t post (fun u hu =>
      hsep u (List.mem_append_right _ (List.mem_cons_of_mem _ hu)) (hne u (List.mem_append_right _ hu))),
    List.nil_append, List.nil_append, List.append_nil]

theorem fromDict_asDict (hpr : ∀ k, parse (render k) = k) (o : Obj A)
    (hnd : (o.dicts.map (·.1)).Nodup)
    (hkeys : ((o.tags ++ o.dicts.flatMap (fun t => dicToKeydic render t.1 t.2)).map (·.1)).Nodup)
    (htags : ∀ t ∈ o.dicts, ∀ p ∈ o.tags, (t.1 ++ ['_']).isPrefixOf p.1 = false)
    (hsep : ∀ t ∈ o.dicts, ∀ u ∈ o.dicts, u.1 ≠ t.1 → ∀ k, (t.1 ++ ['_']).isPrefixOf (keyOf render u.1 k) = false) :
    fromDict parse (o.tags.map (·.1)) (o.dicts.map (·.1)) (asDict render o) = o := by
  obtain ⟨tags, dicts⟩ := o
  dsimp only at hnd hkeys htags hsep ⊢
  rw [fromDict, asDict, dictOf_nodup _ hkeys]
  congr 1
  · rw [List.filterMap_map]
    refine (filterMap_eq_map_of_some _ id tags (fun p hp => ?_)).trans (List.map_id tags)
    rw [Function.comp_apply, dirGet_of_mem_nodup hkeys (List.mem_append_left _ hp)]
    rfl
  · rw [List.map_map]
    refine (List.map_congr_left (fun u hu => ?_)).trans (List.map_id dicts)
    exact congrArg (Prod.mk u.1)
      (keydicToDic_stored render parse hpr tags dicts u.1 u.2 hu hnd (htags u hu) (hsep u hu))

/-! ### `equals` -/

theorem dictEquals_refl (close : A → A → Bool) (hc : ∀ a, close a a = true) (d : List (Int × A))
    (hnd : (d.map (·.1)).Nodup) : dictEquals close d d = true := by
  unfold dictEquals
  simp only [Bool.and_eq_true, List.all_eq_true, List.any_eq_true, Bool.or_eq_true, Bool.not_eq_true',
    beq_eq_false_iff_ne, beq_iff_eq]
  refine ⟨⟨fun p hp => ⟨p, hp, rfl⟩, fun p hp => ⟨p, hp, rfl⟩⟩, ?_⟩
  intro p hp q hq
  by_cases e : q.1 = p.1
  · right
    have : q = p := List.inj_on_of_nodup_map hnd hq hp e
    rw [this]; exact hc _
  · left; exact e

/-! ### saving -/

section save
variable {B : Type} (ext : Name → Name) (seed : Name)

theorem saveTo_eq : ∀ (cont : List (Name × FileObj B)) (disk : List (Name × B)),
    saveTo ext seed cont disk = (cont.map (fun p => (npzPath ext seed p.1, p.2.content))).reverse ++ disk
  | [], _ => rfl
  | p :: t, disk => by
    rw [saveTo, List.foldl_cons, ← saveTo, saveTo_eq t, List.map_cons, List.reverse_cons, List.append_assoc]
    rfl

theorem dirGet_saveTo (cont : List (Name × FileObj B)) (disk : List (Name × B))
    (hnd : (cont.map (fun p => npzPath ext seed p.1)).Nodup) (p : Name × FileObj B) (hp : p ∈ cont) :
    dirGet (saveTo ext seed cont disk) (npzPath ext seed p.1) = some p.2.content := by
  rw [saveTo_eq, dirGet_append, dirGet_of_mem_nodup (a := p.2.content)
    (by rwa [List.map_reverse, List.nodup_reverse, List.map_map])
    (List.mem_reverse.2 (List.mem_map.2 ⟨p, hp, rfl⟩))]
  rfl

theorem wrun_append_save (hist : List (WOp B)) (s : WState B) :
    wrun ext (hist ++ [WOp.save seed]) s =
      { wrun ext hist s with disk := saveTo ext seed (wrun ext hist s).cont (wrun ext hist s).disk } := by
  rw [wrun, List.foldl_append]
  rfl

end save

end WB.C19
