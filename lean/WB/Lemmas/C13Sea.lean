/-
  C13 — uniform Fermi grids.  The Fermi-sea calculator is the step sum of its groups; the grid extended by `extraEf`
  points on both sides is again uniform, with the same spacing and with the window `[EFmin, EFmax]` of the `fder = n`
  calculator, so that calculator is the n-th central difference of the Fermi-sea one (the lumped sea group cancels).
-/
import WB.Lemmas.C13Step

namespace WB.C13

/-- the Fermi grid is uniform with the spacing the code itself uses (`Efermi[1]-Efermi[0]`, or 0.001 for one point) -/
def Uniform (Ef : Nat → Rat) (n : Nat) : Prop := ∀ j, j < n → Ef j = Ef 0 + (j : Rat) * dEF Ef n

/-- a k-point: band energies, number of bands, and the formula trace of a group -/
abbrev KPoint := (Nat → Rat) × Nat × (Nat × Nat → Rat)

theorem Uniform.le {Ef : Nat → Rat} {n : Nat} (hu : Uniform Ef n) (hd : 0 ≤ dEF Ef n) {j j' : Nat} (hjj : j ≤ j')
    (hj : j' < n) : Ef j ≤ Ef j' := by
  rw [hu j (by omega), hu j' hj]
  exact add_le_add_right (mul_le_mul_of_nonneg_right (Nat.cast_le.mpr hjj) hd) _

theorem EFmin_zero (Ef : Nat → Rat) (n : Nat) : EFmin Ef n 0 = Ef 0 := by
  show Ef 0 - ((0 : Nat) : Rat) * dEF Ef n = Ef 0
  rw [Nat.cast_zero, zero_mul, sub_zero]

theorem EFmax_zero (Ef : Nat → Rat) (n : Nat) : EFmax Ef n 0 = Ef (n - 1) := by
  show Ef (n - 1) + ((0 : Nat) : Rat) * dEF Ef n = Ef (n - 1)
  rw [Nat.cast_zero, zero_mul, add_zero]

theorem calcK_zero (Ef : Nat → Rat) (n : Nat) (E : Nat → Rat) (th : Rat) (nb : Nat) (kr : Bool)
    (sel : Option (List Nat)) (v : Nat × Nat → Rat) :
    calcK 0 Ef n E th nb kr sel v = groupsWithValues E th nb kr (Ef 0) (Ef (n - 1)) true sel v := by
  unfold calcK
  rw [EFmin_zero, EFmax_zero]
  rfl

theorem calcK_pos {fder : Nat} (hf : 1 ≤ fder) (Ef : Nat → Rat) (n : Nat) (E : Nat → Rat) (th : Rat) (nb : Nat)
    (kr : Bool) (sel : Option (List Nat)) (v : Nat × Nat → Rat) :
    calcK fder Ef n E th nb kr sel v =
      groupsWithValues E th nb kr (EFmin Ef n fder) (EFmax Ef n fder) false sel v := by
  unfold calcK
  rw [show (fder == 0) = false from beq_false_of_ne (by omega)]

theorem resolved_zero_eq_stepSum (Ef : Nat → Rat) (n : Nat) (hu : Uniform Ef n) (hd : 0 < dEF Ef n)
    (groups : List Group) (j : Nat) (hj : j < n) :
    resolved 0 Ef n groups j = stepSum groups (Ef j) := by
  have hjN : Ef j ≤ Ef (n - 1) := hu.le hd.le (by omega) (by omega)
  unfold resolved
  rw [stencil_0, EFmin_zero, EFmax_zero, accumulate_eq_stepSum _ _ _ hd (hu.le hd.le (Nat.zero_le _) (by omega)),
    ← hu j hj, min_eq_left hjN]

section grid
variable (fder : Nat) (Ef : Nat → Rat) (n : Nat)

theorem extGrid_zero : extGrid fder Ef n 0 = EFmin Ef n fder := by
  unfold extGrid
  rw [Nat.cast_zero, zero_mul, add_zero]

/-- also for one Fermi level, where both spacings are the default 0.001 -/
theorem dEF_extGrid : dEF (extGrid fder Ef n) (nEFextra n fder) = dEF Ef n := by
  by_cases hN : nEFextra n fder > 1
  · rw [dEF, if_pos hN]
    unfold extGrid
    push_cast
    ring
  · have hn : ¬ n > 1 := fun h => hN (by unfold nEFextra; omega)
    rw [dEF, if_neg hN, dEF, if_neg hn]

/-- `Ef j` is the point `j + extraEf` of the extended grid; this is the point `m` steps above it -/
theorem extGrid_above (hu : Uniform Ef n) {j : Nat} (hj : j < n) (i m : Nat) (h : i = j + extraEf fder + m) :
    extGrid fder Ef n i = Ef j + (m : Rat) * dEF Ef n := by
  unfold extGrid EFmin
  rw [hu j hj, h]
  push_cast
  ring

theorem extGrid_below (hu : Uniform Ef n) {j : Nat} (hj : j < n) (i m : Nat) (h : i + m = j + extraEf fder) :
    extGrid fder Ef n i = Ef j - (m : Rat) * dEF Ef n := by
  have h' : (i : Rat) + m = j + extraEf fder := by exact_mod_cast h
  unfold extGrid EFmin
  rw [hu j hj, show (i : Rat) = j + extraEf fder - m from eq_sub_of_add_eq h']
  ring

theorem extGrid_last (hn : 0 < n) (hu : Uniform Ef n) :
    extGrid fder Ef n (nEFextra n fder - 1) = EFmax Ef n fder :=
  extGrid_above fder Ef n hu (Nat.sub_lt hn Nat.one_pos) _ _ (by unfold nEFextra; omega)

theorem extGrid_uniform : Uniform (extGrid fder Ef n) (nEFextra n fder) := by
  intro j _
  rw [dEF_extGrid, extGrid_zero]
  rfl

/-- the Fermi-sea calculator on the extended grid fills the very bins of the `fder` calculator -/
theorem resolved_zero_extGrid (hn : 0 < n) (hu : Uniform Ef n) (groups : List Group) (i : Nat) :
    resolved 0 (extGrid fder Ef n) (nEFextra n fder) groups i =
      accumulate (EFmin Ef n fder) (EFmax Ef n fder) (dEF Ef n) groups i := by
  unfold resolved
  rw [stencil_0, dEF_extGrid, EFmin_zero, EFmax_zero, extGrid_zero, extGrid_last fder Ef n hn hu]

theorem calcK_zero_extGrid (hn : 0 < n) (hu : Uniform Ef n) (E : Nat → Rat) (th : Rat) (nb : Nat) (kr : Bool)
    (sel : Option (List Nat)) (v : Nat × Nat → Rat) :
    calcK 0 (extGrid fder Ef n) (nEFextra n fder) E th nb kr sel v =
      groupsWithValues E th nb kr (EFmin Ef n fder) (EFmax Ef n fder) true sel v := by
  rw [calcK_zero, extGrid_zero, extGrid_last fder Ef n hn hu]

end grid

theorem groupsWithValues_eq (E : Nat → Rat) (th : Rat) (nb : Nat) (kr : Bool) (emin emax : Rat) (sea : Bool)
    (sel : Option (List Nat)) (v : Nat × Nat → Rat) :
    groupsWithValues E th nb kr emin emax sea sel v =
      let win := windowGroups E th nb kr emin emax sel
      let m := seaBandmax E nb emin win
      win.map (fun ab => (some (groupMean E ab), v ab * wsel sel ab)) ++
        if (sea && decide (m > 0)) = true then [(none, v (0, m) * wsel sel (0, m))] else [] := by
  unfold groupsWithValues groupsIK
  dsimp only
  split
  · rw [List.map_append, List.map_map]; rfl
  · rw [List.map_map, List.append_nil]; rfl

/-- the lumped group is in every bin -/
theorem groups_sea_split (E : Nat → Rat) (th : Rat) (nb : Nat) (kr : Bool) (emin emax : Rat)
    (sel : Option (List Nat)) (v : Nat × Nat → Rat) :
    ∃ c : Rat, ∀ (d : Rat) (j : Nat),
      accumulate emin emax d (groupsWithValues E th nb kr emin emax true sel v) j =
        accumulate emin emax d (groupsWithValues E th nb kr emin emax false sel v) j + c := by
  simp only [groupsWithValues_eq, Bool.false_and, Bool.false_eq_true, if_false, List.append_nil]
  split
  · exact ⟨_, fun d j => (accumulate_append ..).trans (congrArg (_ + ·) (accumulate_none emin emax d _ j))⟩
  · exact ⟨0, fun d j => by rw [List.append_nil, add_zero]⟩

/-- T3 for one k-point, any order `≥ 1` and any band selection: the lumped group is constant along the grid and cancels -/
theorem surface_is_fd_of_sea_resolved (fder : Nat) (h1 : 1 ≤ fder) (Ef : Nat → Rat) (n : Nat)
    (hn : 0 < n) (hu : Uniform Ef n) (E : Nat → Rat) (th : Rat) (nb : Nat) (kr : Bool) (sel : Option (List Nat))
    (v : Nat × Nat → Rat) (j : Nat) :
    resolved fder Ef n (calcK fder Ef n E th nb kr sel v) j =
      stencil fder (dEF Ef n)
        (fun i => resolved 0 (extGrid fder Ef n) (nEFextra n fder)
          (calcK 0 (extGrid fder Ef n) (nEFextra n fder) E th nb kr sel v) i) j := by
  obtain ⟨c, hc⟩ := groups_sea_split E th nb kr (EFmin Ef n fder) (EFmax Ef n fder) sel v
  simp only [resolved_zero_extGrid fder Ef n hn hu, calcK_zero_extGrid fder Ef n hn hu, calcK_pos h1, hc]
  rw [stencil_add, stencil_const fder h1, add_zero]
  rfl

/-- T3 in closed form: the stencil of the Fermi-sea step sum sampled at the extended-grid points around `Ef j`
    (`extGrid_above`, `extGrid_below`) -/
theorem fder_is_central_difference (fder : Nat) (h1 : 1 ≤ fder) (Ef : Nat → Rat) (n : Nat) (hn : 0 < n)
    (hu : Uniform Ef n) (hd : 0 < dEF Ef n) (E : Nat → Rat) (th : Rat) (nb : Nat) (kr : Bool)
    (sel : Option (List Nat)) (v : Nat × Nat → Rat) (j : Nat) (hj : j < n) :
    resolved fder Ef n (calcK fder Ef n E th nb kr sel v) j =
      stencil fder (dEF Ef n)
        (fun i => stepSum (groupsWithValues E th nb kr (EFmin Ef n fder) (EFmax Ef n fder) true sel v)
          (extGrid fder Ef n i)) j := by
  rw [surface_is_fd_of_sea_resolved fder h1 Ef n hn hu]
  refine stencil_congr fder _ _ _ j fun k hk => ?_
  rw [resolved_zero_eq_stepSum _ _ (extGrid_uniform fder Ef n) (by rw [dEF_extGrid]; exact hd) _ _
    (by unfold nEFextra; omega), calcK_zero_extGrid fder Ef n hn hu]

theorem unresolved_map {α : Type} (fder : Nat) (Ef : Nat → Rat) (n : Nat) (f : α → List Group) (l : List α)
    (j : Nat) :
    unresolved fder Ef n (l.map f) j = (l.map (fun a => resolved fder Ef n (f a) j)).sum / (l.length : Rat) := by
  unfold unresolved resolved
  rw [List.map_map, List.length_map, ← stencil_sum]
  exact congrArg (fun r => stencil fder (dEF Ef n) r j / _) (funext (sumK_map _ l))

/-- T3 summed over k: both sides are means over the k-points, the stencil is linear, and each k-point is
    `surface_is_fd_of_sea_resolved` -/
theorem surface_is_fd_of_sea_unresolved (fder : Nat) (h1 : 1 ≤ fder) (Ef : Nat → Rat) (n : Nat) (hn : 0 < n)
    (hu : Uniform Ef n) (th : Rat) (kr : Bool) (sel : Option (List Nat)) (ks : List KPoint) (j : Nat) :
    unresolved fder Ef n (ks.map (fun k => calcK fder Ef n k.1 th k.2.1 kr sel k.2.2)) j =
      stencil fder (dEF Ef n)
        (fun i => unresolved 0 (extGrid fder Ef n) (nEFextra n fder)
          (ks.map (fun k => calcK 0 (extGrid fder Ef n) (nEFextra n fder) k.1 th k.2.1 kr sel k.2.2)) i) j := by
  simp only [unresolved_map]
  rw [stencil_div, stencil_sum]
  exact congrArg (· / _) (congrArg List.sum (List.map_congr_left fun k _ =>
    surface_is_fd_of_sea_resolved fder h1 Ef n hn hu k.1 th k.2.1 kr sel k.2.2 j))

end WB.C13
