/-
  C14 — range and monotonicity of the tetrahedron occupation (any linearly ordered field).

  Proof idea, valid without calculus: on each closed interval `[eⱼ, eⱼ₊₁]` the spec is the cubic `specHead j 3`, whose
  derivative `3 · specHead j 2` has a manifestly non-negative form there, and Simpson's rule is exact for cubics:
      specHead j 3 y - specHead j 3 x = (y - x)/2 · (specHead j 2 x + 4 specHead j 2 ((x+y)/2) + specHead j 2 y).
-/
import WB.Lemmas.C14Spec
import Mathlib.Tactic.Positivity
import Mathlib.Order.Monotone.Union

namespace WB.C14
variable {K : Type} [Field K] [LinearOrder K] [IsStrictOrderedRing K]

theorem specHead_simpson (j : Nat) (e1 e2 e3 e4 x y : K) :
    specHead j 3 e1 e2 e3 e4 y - specHead j 3 e1 e2 e3 e4 x =
      (y - x) / 2 * (specHead j 2 e1 e2 e3 e4 x + 4 * specHead j 2 e1 e2 e3 e4 ((x + y) / 2) + specHead j 2 e1 e2 e3 e4 y) := by
  unfold specHead; ring

theorem mono_of_simpson {P Q : K → K} (hs : ∀ x y, P y - P x = (y - x) / 2 * (Q x + 4 * Q ((x + y) / 2) + Q y))
    {a b : K} (hq : ∀ z, a ≤ z → z ≤ b → 0 ≤ Q z) {x y : K} (hax : a ≤ x) (hxy : x ≤ y) (hyb : y ≤ b) :
    P x ≤ P y := by
  have q1 := hq x hax (hxy.trans hyb)
  have q2 := hq ((x + y) / 2) ((le_div_iff₀ two_pos).mpr (mul_two a ▸ add_le_add hax (hax.trans hxy)))
    ((div_le_iff₀ two_pos).mpr (mul_two b ▸ add_le_add (hxy.trans hyb) hyb))
  have q3 := hq y (hax.trans hxy) hyb
  rw [← sub_nonneg, hs x y]
  exact mul_nonneg (div_nonneg (sub_nonneg.mpr hxy) zero_le_two)
    (add_nonneg (add_nonneg q1 (mul_nonneg zero_le_four q2)) q3)

/-! ### the derivative of each cubic is non-negative on its interval -/

theorem specHead_one_nonneg {e1 e2 e3 e4 : K} (h : Incr e1 e2 e3 e4) (x : K) : 0 ≤ specHead 1 2 e1 e2 e3 e4 x := by
  obtain ⟨p12, p13, p14, -, -, -⟩ := h.pos
  simp only [specHead, Nat.reduceLeDiff, if_false, zero_mul, add_zero]
  exact mul_nonneg (one_div_pos.mpr (mul_pos (mul_pos p12 p13) p14)).le (sq_nonneg _)

/-- quadratic B-spline recurrence: the middle-piece derivative is a positive combination of two hat functions -/
theorem specHead_two_nonneg {e1 e2 e3 e4 : K} (h : Incr e1 e2 e3 e4) {x : K} (h2 : e2 ≤ x) (h3 : x ≤ e3) :
    0 ≤ specHead 2 2 e1 e2 e3 e4 x := by
  obtain ⟨p12, p13, p14, p23, p24, p34⟩ := h.pos
  have a1 : 0 ≤ x - e1 := sub_nonneg.mpr (h.h12.le.trans h2)
  have a2 : 0 ≤ e3 - x := sub_nonneg.mpr h3
  have a3 : 0 ≤ e4 - x := sub_nonneg.mpr (h3.trans h.h34.le)
  have a4 : 0 ≤ x - e2 := sub_nonneg.mpr h2
  have key : (x - e1) ^ 2 * ((e2 - e1) * (e3 - e2) * (e4 - e2)) - (x - e2) ^ 2 * ((e2 - e1) * (e3 - e1) * (e4 - e1)) =
      (e2 - e1) * ((e2 - e1) * ((x - e1) * (e3 - x) * (e4 - e2) + (e4 - x) * (x - e2) * (e3 - e1))) := by ring
  simp only [specHead, Nat.reduceLeDiff, if_true, if_false, le_refl, zero_mul, add_zero, neg_mul]
  rw [← sub_eq_add_neg, sub_nonneg, one_div_mul_eq_div, one_div_mul_eq_div,
    div_le_div_iff₀ (mul_pos (mul_pos p12 p23) p24) (mul_pos (mul_pos p12 p13) p14), ← sub_nonneg, key]
  exact mul_nonneg p12.le (mul_nonneg p12.le (add_nonneg (mul_nonneg (mul_nonneg a1 a2) p24.le)
    (mul_nonneg (mul_nonneg a3 a4) p13.le)))

theorem specHead_three_nonneg {e1 e2 e3 e4 : K} (h : Incr e1 e2 e3 e4) (x : K) : 0 ≤ specHead 3 2 e1 e2 e3 e4 x := by
  obtain ⟨-, -, p14, -, p24, p34⟩ := h.pos
  rw [specHead_three h (by norm_num)]
  positivity

/-! `spec_cases` on the CLOSED intervals (degree 3 vanishes at the knot): `MonotoneOn.union_right` glues at a common point -/

theorem spec0_below {e1 e2 e3 e4 : K} (h : Incr e1 e2 e3 e4) {x : K} (hx : x ≤ e1) :
    spec 0 e1 e2 e3 e4 x = 0 := by
  unfold spec
  rw [Nat.sub_zero, tp_of_ge three_pos hx, tp_of_ge three_pos (hx.trans h.h12.le),
    tp_of_ge three_pos (hx.trans (h.h12.le.trans h.h23.le)),
    tp_of_ge three_pos (hx.trans (h.h12.le.trans (h.h23.le.trans h.h34.le)))]
  simp only [zero_div, add_zero, mul_zero]

theorem spec0_Icc12 {e1 e2 e3 e4 : K} (h : Incr e1 e2 e3 e4) {x : K} (h1 : e1 ≤ x) (h2 : x ≤ e2) :
    spec 0 e1 e2 e3 e4 x = specHead 1 3 e1 e2 e3 e4 x := by
  rw [spec_pos]
  rw [Nat.sub_zero, tp_of_le h1, tp_of_ge three_pos h2, tp_of_ge three_pos (h2.trans h.h23.le),
    tp_of_ge three_pos (h2.trans (h.h23.le.trans h.h34.le))]
  simp only [specHead, ff, Nat.reduceLeDiff, if_false]
  ring

theorem spec0_Icc23 {e1 e2 e3 e4 : K} (h : Incr e1 e2 e3 e4) {x : K} (h2 : e2 ≤ x) (h3 : x ≤ e3) :
    spec 0 e1 e2 e3 e4 x = specHead 2 3 e1 e2 e3 e4 x := by
  rw [spec_pos]
  rw [Nat.sub_zero, tp_of_le (h.h12.le.trans h2), tp_of_le h2, tp_of_ge three_pos h3,
    tp_of_ge three_pos (h3.trans h.h34.le)]
  simp only [specHead, ff, Nat.reduceLeDiff, if_true, if_false, le_refl]
  ring

theorem spec0_Icc34 {e1 e2 e3 e4 : K} (h : Incr e1 e2 e3 e4) {x : K} (h3 : e3 ≤ x) (h4 : x ≤ e4) :
    spec 0 e1 e2 e3 e4 x = specHead 3 3 e1 e2 e3 e4 x := by
  rw [spec_pos]
  rw [Nat.sub_zero, tp_of_le (h.h12.le.trans (h.h23.le.trans h3)), tp_of_le (h.h23.le.trans h3), tp_of_le h3,
    tp_of_ge three_pos h4]
  simp only [specHead, ff, Nat.reduceLeDiff, if_true, if_false, le_refl]
  ring

/-- T4 (monotone): the exact occupation is non-decreasing in the Fermi level -/
theorem spec0_mono {e1 e2 e3 e4 : K} (h : Incr e1 e2 e3 e4) : Monotone (spec 0 e1 e2 e3 e4) := by
  have A0 : MonotoneOn (spec 0 e1 e2 e3 e4) (Set.Iic e1) := by
    intro x hx y hy _
    rw [spec0_below h hx, spec0_below h hy]
  have A1 : MonotoneOn (spec 0 e1 e2 e3 e4) (Set.Icc e1 e2) := by
    intro x hx y hy hxy
    rw [spec0_Icc12 h hx.1 hx.2, spec0_Icc12 h hy.1 hy.2]
    exact mono_of_simpson (specHead_simpson 1 e1 e2 e3 e4) (fun z _ _ => specHead_one_nonneg h z) hx.1 hxy hy.2
  have A2 : MonotoneOn (spec 0 e1 e2 e3 e4) (Set.Icc e2 e3) := by
    intro x hx y hy hxy
    rw [spec0_Icc23 h hx.1 hx.2, spec0_Icc23 h hy.1 hy.2]
    exact mono_of_simpson (specHead_simpson 2 e1 e2 e3 e4) (fun z hz1 hz2 => specHead_two_nonneg h hz1 hz2) hx.1 hxy hy.2
  have A3 : MonotoneOn (spec 0 e1 e2 e3 e4) (Set.Icc e3 e4) := by
    intro x hx y hy hxy
    rw [spec0_Icc34 h hx.1 hx.2, spec0_Icc34 h hy.1 hy.2]
    exact mono_of_simpson (specHead_simpson 3 e1 e2 e3 e4) (fun z _ _ => specHead_three_nonneg h z) hx.1 hxy hy.2
  have A4 : MonotoneOn (spec 0 e1 e2 e3 e4) (Set.Ici e4) := by
    intro x hx y hy _
    rw [spec_above h (Nat.zero_le 3) hx, spec_above h (Nat.zero_le 3) hy]
  have B1 := A0.union_right A1 isGreatest_Iic (isLeast_Icc h.h12.le)
  rw [Set.Iic_union_Icc_eq_Iic h.h12.le] at B1
  have B2 := B1.union_right A2 isGreatest_Iic (isLeast_Icc h.h23.le)
  rw [Set.Iic_union_Icc_eq_Iic h.h23.le] at B2
  have B3 := B2.union_right A3 isGreatest_Iic (isLeast_Icc h.h34.le)
  rw [Set.Iic_union_Icc_eq_Iic h.h34.le] at B3
  exact B3.Iic_union_Ici A4

/-- T4 (range) -/
theorem spec0_range {e1 e2 e3 e4 : K} (h : Incr e1 e2 e3 e4) (x : K) :
    0 ≤ spec 0 e1 e2 e3 e4 x ∧ spec 0 e1 e2 e3 e4 x ≤ 1 := by
  constructor
  · have := spec0_mono h (min_le_left x e1)
    rwa [spec0_below h (min_le_right x e1)] at this
  · have := spec0_mono h (le_max_left x e4)
    rwa [spec_above h (Nat.zero_le 3) (le_max_right x e4)] at this

/-- the density of states weight (first derivative) is non-negative everywhere -/
theorem spec1_nonneg {e1 e2 e3 e4 : K} (h : Incr e1 e2 e3 e4) (x : K) : 0 ≤ spec 1 e1 e2 e3 e4 x := by
  rw [spec_cases h (by norm_num)]
  exact piece_elim e1 e2 e3 e4 x (fun _ => by norm_num) (fun _ => le_rfl)
    (fun _ _ => mul_nonneg (ff_nonneg 1) (specHead_three_nonneg h x))
    (fun c2 c3 => mul_nonneg (ff_nonneg 1) (specHead_two_nonneg h c2 c3.le))
    (fun _ _ => mul_nonneg (ff_nonneg 1) (specHead_one_nonneg h x))

end WB.C14
