/-
  C31 helper lemmas: the finite-difference stencil `Σ_b w_b f(k+b) b` as a combination of stencil moments.
-/
import WB.Model.C31
import Mathlib.Algebra.Ring.CharZero
import Mathlib.Algebra.BigOperators.Ring.List
import Mathlib.Tactic.Ring
import Mathlib.Tactic.LinearCombination

namespace WB.C31

variable {K : Type}

/-- the stencil point `(w, −b_red, −b_cart)` -/
def BPoint.neg [Neg K] (p : BPoint K) : BPoint K := ⟨p.w, fun a => -p.bred a, fun a => -p.bcart a⟩

section ring
variable [CommRing K]

/-! moments and the stencil as sums over the list of stencil points -/

theorem mom_eq_sum (g : V3 K → K) : ∀ bs : List (BPoint K), mom g bs = (bs.map fun p => p.w * g p.bcart).sum
  | [] => rfl
  | p :: ps => by rw [mom, mom_eq_sum g ps]; rfl

theorem deriv3D_eq_sum (f : V3 K → K) (k : V3 K) (e : Fin 3) : ∀ bs : List (BPoint K),
    deriv3D f k e bs = (bs.map fun p => p.w * f (vadd k p.bred) * p.bcart e).sum
  | [] => rfl
  | p :: ps => by rw [deriv3D, deriv3D_eq_sum f k e ps]; rfl

theorem deriv3D_eq_mom (f : V3 K → K) (k : V3 K) (e : Fin 3) (G : V3 K → K) (bs : List (BPoint K))
    (h : ∀ p ∈ bs, f (vadd k p.bred) = G p.bcart) : deriv3D f k e bs = mom (fun b => G b * b e) bs := by
  rw [deriv3D_eq_sum, mom_eq_sum]
  exact congrArg _ (List.map_congr_left fun p hp => by rw [h p hp, mul_assoc])

theorem mom_add (g1 g2 : V3 K → K) (bs : List (BPoint K)) :
    mom (fun b => g1 b + g2 b) bs = mom g1 bs + mom g2 bs := by
  simp only [mom_eq_sum, mul_add, List.sum_map_add]

theorem mom_smul (x : K) (g : V3 K → K) (bs : List (BPoint K)) : mom (fun b => x * g b) bs = x * mom g bs := by
  simp only [mom_eq_sum, mul_left_comm _ x, List.sum_map_mul_left]

theorem mom_append (g : V3 K → K) (l1 l2 : List (BPoint K)) : mom g (l1 ++ l2) = mom g l1 + mom g l2 := by
  simp only [mom_eq_sum, List.map_append, List.sum_append]

theorem mom_congr (g1 g2 : V3 K → K) (h : ∀ b, g1 b = g2 b) (bs : List (BPoint K)) : mom g1 bs = mom g2 bs := by
  rw [funext h]

theorem mom_perm (g : V3 K → K) {bs bs' : List (BPoint K)} (h : bs.Perm bs') : mom g bs = mom g bs' := by
  rw [mom_eq_sum, mom_eq_sum]; exact (h.map _).sum_eq

theorem mom_map_neg (g : V3 K → K) (bs : List (BPoint K)) :
    mom g (bs.map BPoint.neg) = mom (fun b => g (fun a => -b a)) bs := by
  rw [mom_eq_sum, mom_eq_sum, List.map_map]; rfl

/-- odd functions have zero moment on a stencil closed under negation -/
theorem mom_odd_zero [IsDomain K] [CharZero K] (g : V3 K → K) (hodd : ∀ b, g (fun a => -b a) = -g b)
    (bs : List (BPoint K)) (hneg : (bs.map BPoint.neg).Perm bs) : mom g bs = 0 := by
  have h1 : mom g bs = mom g (bs.map BPoint.neg) := (mom_perm g hneg).symm
  rw [mom_map_neg] at h1
  have h2 : mom (fun b => g (fun a => -b a)) bs = -mom g bs := by
    rw [mom_congr _ (fun b => (-1) * g b) (fun b => by rw [hodd]; ring), mom_smul]; ring
  rw [h2] at h1
  have h3 : (2 : K) * mom g bs = 0 := by linear_combination h1
  exact (mul_eq_zero.1 h3).resolve_left two_ne_zero

theorem deriv3D_congr (f f' : V3 K → K) (h : ∀ x, f x = f' x) (k : V3 K) (e : Fin 3) (bs : List (BPoint K)) :
    deriv3D f k e bs = deriv3D f' k e bs := by
  rw [funext h]

theorem deriv3D_add (f1 f2 : V3 K → K) (k : V3 K) (e : Fin 3) (bs : List (BPoint K)) :
    deriv3D (fun x => f1 x + f2 x) k e bs = deriv3D f1 k e bs + deriv3D f2 k e bs := by
  simp only [deriv3D_eq_sum, mul_add, add_mul, List.sum_map_add]

theorem deriv3D_smul (x : K) (f : V3 K → K) (k : V3 K) (e : Fin 3) (bs : List (BPoint K)) :
    deriv3D (fun y => x * f y) k e bs = x * deriv3D f k e bs := by
  simp only [deriv3D_eq_sum, mul_left_comm _ x, mul_assoc, List.sum_map_mul_left]

theorem deriv3D_const (c : K) (k : V3 K) (e : Fin 3) (bs : List (BPoint K)) :
    deriv3D (fun _ => c) k e bs = c * mom1 bs e := by
  rw [deriv3D_eq_mom _ k e (fun _ => c) bs (fun _ _ => rfl), mom_smul]; rfl

/-- conjugation commutes with the stencil when weights and displacement vectors are real -/
theorem deriv3D_conj (conj : K →+* K) (f : V3 K → K) (k : V3 K) (e : Fin 3) (bs : List (BPoint K))
    (h : ∀ p ∈ bs, conj p.w = p.w ∧ ∀ a, conj (p.bcart a) = p.bcart a) :
    conj (deriv3D f k e bs) = deriv3D (fun x => conj (f x)) k e bs := by
  rw [deriv3D_eq_sum, deriv3D_eq_sum, map_list_sum, List.map_map]
  exact congrArg _ (List.map_congr_left fun p hp => by
    rw [Function.comp, map_mul, map_mul, (h p hp).1, (h p hp).2])

end ring

end WB.C31
