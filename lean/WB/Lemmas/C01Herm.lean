/-
  C01 — from the mirror symmetry of the Wigner-Seitz selection to  X_ba(−R) = conj X_ab(R)  for the matrices that the
  model's `q_to_R` produces from Hermitian mesh data (exact DFT, any field with an involution `star`).
-/
import WB.Lemmas.C01Mirror
import WB.Lemmas.C01Fourier

namespace WB.C01
open WB.C02 (boxChar)

variable (ws : Nat) (G : Gram) (mp : Mesh) (tol : Rat) (s : QVec3)

/-! ### weights -/
section weights
variable {K : Type} [Field K]

theorem weightOf_flatMap {α} (l : List α) (f : α → List (Vec3 × Nat)) (R : Vec3) :
    (weightOf (l.flatMap f) R : K) = sumK (l.map fun a => (weightOf (f a) R : K)) := by
  unfold weightOf
  rw [List.filter_flatMap, sumK_flatMap]

theorem weightOf_eq_zero (sel : List (Vec3 × Nat)) (R : Vec3) (h : ∀ p ∈ sel, p.1 ≠ R) :
    (weightOf sel R : K) = 0 := by
  unfold weightOf
  rw [List.filter_eq_nil_iff.2 fun p hp => by simpa using h p hp]
  rfl

/-- weight of `R` inside one class: `1/Ndegen` if selected, else 0 (the selection has no duplicates) -/
theorem weightOf_map_const (sel : List Vec3) (hnd : sel.Nodup) (n : Nat) (R : Vec3) :
    (weightOf (sel.map fun R' => (R', n)) R : K) = if R ∈ sel then ((n : K))⁻¹ else 0 := by
  induction sel with
  | nil => simp [weightOf_nil]
  | cons x sel ih =>
    have hnd' := List.nodup_cons.mp hnd
    rw [List.map_cons, weightOf_cons, ih hnd'.2]
    by_cases hx : x = R
    · subst hx
      simp [hnd'.1]
    · have : ¬ R = x := fun h => hx h.symm
      simp [hx, this]

/-- only the class of `R mod mp` contributes to the weight of `R` -/
theorem weightOf_wsSelect (h1 : 0 < mp.1) (h2 : 0 < mp.2.1) (h3 : 0 < mp.2.2) (R : Vec3) :
    (weightOf (wsSelect ws G mp tol s) R : K)
      = if R ∈ selClass ws G mp tol s (vmod R mp) then (((selClass ws G mp tol s (vmod R mp)).length : K))⁻¹ else 0 := by
  unfold wsSelect
  rw [weightOf_flatMap, sumK_map_congr (gridPoints mp) _
      (fun c => if vmod R mp = c then (weightOf (wsClass ws G mp tol s c) R : K) else 0),
    sumK_single (gridPoints mp) (nodup_gridPoints mp) (vmod R mp) (vmod_mem_gridPoints mp h1 h2 h3 R)
      (fun c => (weightOf (wsClass ws G mp tol s c) R : K)), wsClass_eq]
  · exact weightOf_map_const _ (nodup_selClass ws G mp tol s _ h1 h2 h3) _ R
  · intro c hc
    split
    · rfl
    · next h =>
      exact weightOf_eq_zero _ R fun p hp hpR => h (hpR ▸ vmod_candidate ws mp c p.1 hc
        (selClass_sub_candidates ws G mp tol s c p.1 ((mem_wsClass ..).1 hp).1))

/-! ### the mirror image: `w_ba(−R) = w_ab(R)` -/

theorem weightOf_mirror (h1 : 0 < mp.1) (h2 : 0 < mp.2.1) (h3 : 0 < mp.2.2)
    (htol : tol ≠ 0) (H : MirrorInside ws G mp tol s) (R : Vec3) :
    (weightOf (wsSelect ws G mp tol (qneg s)) (vneg R) : K) = weightOf (wsSelect ws G mp tol s) R := by
  rw [weightOf_wsSelect ws G mp tol _ h1 h2 h3, weightOf_wsSelect ws G mp tol _ h1 h2 h3, vmod_vneg]
  obtain ⟨H1, H2⟩ := H (vmod R mp) (vmod_mem_gridPoints mp h1 h2 h3 R)
  have hlen := selClass_mirror_length ws G mp tol s (vmod R mp) htol _ h1 h2 h3 H1 H2
  have hmem := selClass_mirror ws G mp tol s (vmod R mp) htol _ H1 H2 R
  rw [hlen]
  by_cases h : R ∈ selClass ws G mp tol s (vmod R mp)
  · rw [if_pos h, if_pos (hmem.1 h)]
  · rw [if_neg h, if_neg (fun h' => h (hmem.2 h'))]

end weights

/-! ### conjugation -/
section conj
variable {K : Type} [Field K] [StarRing K]

theorem star_weightOf (sel : List (Vec3 × Nat)) (R : Vec3) : star (weightOf sel R : K) = weightOf sel R := by
  unfold weightOf
  rw [star_sumK, List.map_map]
  exact congrArg sumK (List.map_congr_left fun p _ => by simp only [Function.comp, star_inv₀, star_natCast])

/-- conjugating the DFT of `A` = DFT of `conj A` at the mirror point, for characters with `conj χ(c) = χ(−c)` -/
theorem star_dftBox (χinv : Vec3 → Vec3 → K) (hconj : ∀ q c, star (χinv q c) = χinv q (vneg c)) (mp : Mesh)
    (A : Vec3 → K) (c : Vec3) :
    star (dftBox χinv mp A c) = dftBox χinv mp (fun q => star (A q)) (vneg c) := by
  unfold dftBox
  rw [star_sumK, List.map_map]
  apply sumK_map_congr
  intro q _
  simp only [Function.comp, star_mul', hconj]

omit [StarRing K] in
theorem dftBox_periodic (χinv : Vec3 → Vec3 → K) (mp : Mesh) (hper : ∀ q, MeshPeriodic mp (χinv q))
    (A : Vec3 → K) (c : Vec3) : dftBox χinv mp A c = dftBox χinv mp A (vmod c mp) := by
  unfold dftBox
  apply sumK_map_congr
  intro q _
  rw [hper q c]

theorem place_star (slots : List Vec3) (X Y : Nat → K) (hXY : ∀ i, Y i = star (X i)) (q : Vec3) :
    place slots Y q = star (place slots X q) := by
  unfold place
  cases (List.range slots.length).reverse.find? (fun i => slots.getD i (0, 0, 0) = q) with
  | none => simp
  | some i => exact hXY i

/-- **Hermiticity of the real-space matrices** (selection of one shift `s`, and of `−s` for the transposed pair) -/
theorem qToR_hermitian [CharZero K] (h1 : 0 < mp.1) (h2 : 0 < mp.2.1) (h3 : 0 < mp.2.2)
    (htol : tol ≠ 0) (H : MirrorInside ws G mp tol s)
    (χinv : Vec3 → Vec3 → K) (hconj : ∀ q c, star (χinv q c) = χinv q (vneg c)) (hper : ∀ q, MeshPeriodic mp (χinv q))
    (Ninv : K) (hN : star Ninv = Ninv)
    (slots : List Vec3) (Xab Xba : Nat → K) (hX : ∀ i, Xba i = star (Xab i)) (R : Vec3) :
    qToR (dftBox χinv mp) Ninv mp slots (weightOf (wsSelect ws G mp tol (qneg s))) Xba (vneg R)
      = star (qToR (dftBox χinv mp) Ninv mp slots (weightOf (wsSelect ws G mp tol s)) Xab R) := by
  unfold qToR
  rw [star_mul', star_mul', star_weightOf, hN, star_dftBox χinv hconj,
    weightOf_mirror ws G mp tol s h1 h2 h3 htol H R]
  have e0 : vmod (vneg (vmod R mp)) mp = vmod (vneg R) mp := (vmod_vneg R mp).symm
  have e1 : dftBox χinv mp (place slots Xba) (vmod (vneg R) mp)
      = dftBox χinv mp (fun q => star (place slots Xab q)) (vneg (vmod R mp)) := by
    rw [dftBox_periodic χinv mp hper _ (vneg (vmod R mp)), e0]
    congr 1
    funext q
    exact place_star slots Xab Xba hX q
  rw [e1]

end conj

/-! ### the box characters of roots of unity with `conj ζ = ζ⁻¹` -/
section boxchar
variable {K : Type} [Field K] [StarRing K]

omit [StarRing K] in
theorem boxChar_vneg (ζ : K × K × K) (q c : Vec3) : boxChar ζ q (vneg c) = (boxChar ζ q c)⁻¹ := by
  simp only [boxChar, vneg, mul_neg, zpow_neg, mul_inv]

theorem star_boxChar (ζ : K × K × K) (h1 : star ζ.1 = ζ.1⁻¹) (h2 : star ζ.2.1 = ζ.2.1⁻¹) (h3 : star ζ.2.2 = ζ.2.2⁻¹)
    (q c : Vec3) : star (boxChar ζ q c) = (boxChar ζ q c)⁻¹ := by
  simp only [boxChar, star_mul', star_zpow₀, h1, h2, h3, inv_zpow, mul_inv]

end boxchar

end WB.C01
