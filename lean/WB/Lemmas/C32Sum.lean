/-
  C32: the R-vector list, closed form of the hopping accumulation loop, Bloch sums, Hermiticity, TBmodels matrices as
  elementary hoppings.
-/
import WB.Model.C32
import Mathlib.Algebra.BigOperators.Group.Finset.Piecewise
import Mathlib.Algebra.Field.Basic

namespace WB.C32
open WB.C18 (Vec3)

/-! ### the R-vector list -/

theorem mem_insertU (a b : Vec3) : ∀ l : List Vec3, b ∈ insertU a l ↔ b = a ∨ b ∈ l
  | [] => by rw [insertU, List.mem_singleton, or_iff_left List.not_mem_nil]
  | c :: t => by
    unfold insertU
    split
    · rename_i h
      subst h
      exact ⟨Or.inr, fun h => h.elim (fun e => e ▸ List.mem_cons_self) id⟩
    · split
      · exact List.mem_cons
      · rw [List.mem_cons, mem_insertU a b t, List.mem_cons]
        exact or_left_comm

theorem mem_uniqueRows (b : Vec3) (l : List Vec3) : b ∈ uniqueRows l ↔ b ∈ l := by
  suffices ∀ acc, b ∈ l.foldl (fun acc a => insertU a acc) acc ↔ b ∈ l ∨ b ∈ acc from
    (this []).trans (or_iff_left List.not_mem_nil)
  induction l with
  | nil => exact fun acc => (or_iff_right List.not_mem_nil).symm
  | cons a t ih =>
    intro acc
    rw [List.foldl_cons, ih, mem_insertU, List.mem_cons]
    exact or_left_comm.trans or_assoc.symm

variable {K : Type}

theorem mem_mkRs (hops : List (Hop K)) (R : Vec3) :
    R ∈ mkRs hops ↔ R = zeroV ∨ (∃ h ∈ hops, h.R = R) ∨ ∃ h ∈ hops, negV h.R = R := by
  unfold mkRs
  rw [mem_uniqueRows, List.cons_append, List.mem_cons, List.mem_append, List.mem_map, List.mem_map]

theorem negV_negV (R : Vec3) : negV (negV R) = R := by
  obtain ⟨a, b, c⟩ := R
  simp [negV]

theorem negV_eq_iff (R S : Vec3) : negV R = S ↔ R = negV S :=
  ⟨fun h => by rw [← h, negV_negV], fun h => by rw [h, negV_negV]⟩

theorem negV_zero : negV zeroV = zeroV := by simp [negV, zeroV]

/-! ### closed form of the accumulation loop -/

section
variable [Field K]

theorem addAt_apply (H : Nat → Nat → Nat → K) (ir i j : Nat) (a : K) (ir' i' j' : Nat) :
    addAt H ir i j a ir' i' j' = H ir' i' j' + if ir' = ir ∧ i' = i ∧ j' = j then a else 0 := by
  unfold addAt
  split
  · rfl
  · exact (add_zero _).symm

/-- what one hopping adds at `(ir, i, j)` -/
def contrib (conj : K → K) (Rs : List Vec3) (h : Hop K) (ir i j : Nat) : K :=
  (if ir = Rs.idxOf h.R ∧ i = h.i ∧ j = h.j then h.amp else 0) +
  (if ir = Rs.idxOf (negV h.R) ∧ i = h.j ∧ j = h.i then conj h.amp else 0)

theorem accumulate_eq (conj : K → K) (Rs : List Vec3) (hops : List (Hop K)) (ir i j : Nat) :
    accumulate conj Rs hops ir i j = (hops.map (fun h => contrib conj Rs h ir i j)).sum := by
  suffices ∀ H0 : Nat → Nat → Nat → K,
      (hops.foldl (fun H h => addAt (addAt H (Rs.idxOf h.R) h.i h.j h.amp) (Rs.idxOf (negV h.R)) h.j h.i (conj h.amp))
        H0) ir i j = H0 ir i j + (hops.map (fun h => contrib conj Rs h ir i j)).sum from
    (this _).trans (zero_add _)
  induction hops with
  | nil => exact fun H0 => (add_zero _).symm
  | cons h t ih =>
    intro H0
    rw [List.foldl_cons, ih, addAt_apply, addAt_apply, List.map_cons, List.sum_cons, add_assoc, add_assoc]
    exact congrArg _ (add_assoc _ _ _).symm

theorem importPtb_apply (conj : K → K) (hops : List (Hop K)) (norb : Nat) (E : Nat → K) (ir i j : Nat) :
    importPtb conj hops norb E ir i j =
      if ir = (mkRs hops).idxOf zeroV ∧ i = j ∧ i < norb then E i else accumulate conj (mkRs hops) hops ir i j :=
  rfl

/-! ### Bloch sums -/

theorem blochSum_eq (χ : Vec3 → K) (Rs : List Vec3) (H : Nat → Nat → Nat → K) (i j : Nat) :
    blochSum χ Rs H i j = ∑ ir ∈ Finset.range Rs.length, χ (Rs.getD ir zeroV) * H ir i j := rfl

theorem getD_idxOf (Rs : List Vec3) (R : Vec3) (h : R ∈ Rs) : Rs.getD (Rs.idxOf R) zeroV = R := by
  rw [List.getD_eq_getElem?_getD, List.getElem?_eq_getElem (List.idxOf_lt_length_iff.mpr h), List.getElem_idxOf]
  rfl

theorem bloch_single (χ : Vec3 → K) (Rs : List Vec3) (R : Vec3) (hR : R ∈ Rs) (P : Prop) [Decidable P] (x : K) :
    ∑ ir ∈ Finset.range Rs.length, χ (Rs.getD ir zeroV) * (if ir = Rs.idxOf R ∧ P then x else 0)
      = if P then χ R * x else 0 := by
  by_cases hP : P
  · simp only [hP, and_true, if_true, mul_ite, mul_zero]
    rw [Finset.sum_ite_eq' (Finset.range Rs.length) (Rs.idxOf R),
      if_pos (Finset.mem_range.mpr (List.idxOf_lt_length_iff.mpr hR)), getD_idxOf Rs R hR]
  · simp only [hP, and_false, if_false, mul_zero, Finset.sum_const_zero]

theorem bloch_contrib (conj : K → K) (χ : Vec3 → K) (Rs : List Vec3) (h : Hop K) (hR : h.R ∈ Rs)
    (hnR : negV h.R ∈ Rs) (i j : Nat) :
    ∑ ir ∈ Finset.range Rs.length, χ (Rs.getD ir zeroV) * contrib conj Rs h ir i j
      = (if h.i = i ∧ h.j = j then χ h.R * h.amp else 0) +
        (if h.j = i ∧ h.i = j then χ (negV h.R) * conj h.amp else 0) := by
  simp only [contrib, mul_add, Finset.sum_add_distrib]
  rw [bloch_single χ Rs _ hR, bloch_single χ Rs _ hnR]
  congr 1 <;> exact if_congr (and_congr eq_comm eq_comm) rfl rfl

theorem blochSum_accumulate (conj : K → K) (χ : Vec3 → K) (Rs : List Vec3) (hops : List (Hop K))
    (hmem : ∀ h ∈ hops, h.R ∈ Rs ∧ negV h.R ∈ Rs) (i j : Nat) :
    blochSum χ Rs (accumulate conj Rs hops) i j = sourceHops conj χ hops i j := by
  rw [blochSum_eq]
  simp only [accumulate_eq]
  unfold sourceHops
  induction hops with
  | nil => simp only [List.map_nil, List.sum_nil, mul_zero, Finset.sum_const_zero]
  | cons h t ih =>
    simp only [List.map_cons, List.sum_cons, mul_add, Finset.sum_add_distrib]
    rw [ih fun g hg => hmem g (List.mem_cons_of_mem _ hg),
      bloch_contrib conj χ Rs h (hmem h List.mem_cons_self).1 (hmem h List.mem_cons_self).2]

/-- a hopping adds to entry `(i, j)` of the `R = 0` block only if it is an `R = 0` hopping between `i` and `j` -/
theorem contrib_zeroBlock_eq_zero (conj : K → K) {Rs : List Vec3} (h0 : zeroV ∈ Rs) (g : Hop K) (i j : Nat)
    (hg : g.R = zeroV → ¬((i = g.i ∧ j = g.j) ∨ (i = g.j ∧ j = g.i))) :
    contrib conj Rs g (Rs.idxOf zeroV) i j = 0 := by
  unfold contrib
  rw [if_neg, if_neg, add_zero]
  · rintro ⟨e, h⟩
    exact hg (((negV_eq_iff _ _).mp ((List.idxOf_inj h0).mp e).symm).trans negV_zero) (Or.inr h)
  · rintro ⟨e, h⟩
    exact hg ((List.idxOf_inj h0).mp e).symm (Or.inl h)

/-- Assigning `v i j` to the entries `P i j` of the `R = 0` block after the accumulation adds `χ(0) v i j` to the
    source model's Bloch sum, provided no hopping had contributed to such an entry. -/
theorem blochSum_onsite (conj : K → K) (χ : Vec3 → K) {Rs : List Vec3} (h0 : zeroV ∈ Rs) (hops : List (Hop K))
    (hmem : ∀ h ∈ hops, h.R ∈ Rs ∧ negV h.R ∈ Rs) (P : Nat → Nat → Prop) [∀ i j, Decidable (P i j)]
    (v : Nat → Nat → K) (i j : Nat)
    (hz : P i j → ∀ g ∈ hops, g.R = zeroV → ¬((i = g.i ∧ j = g.j) ∨ (i = g.j ∧ j = g.i))) :
    blochSum χ Rs (fun ir i j => if ir = Rs.idxOf zeroV ∧ P i j then v i j else accumulate conj Rs hops ir i j) i j
      = sourceHops conj χ hops i j + if P i j then χ zeroV * v i j else 0 := by
  rw [← blochSum_accumulate conj χ Rs hops hmem, blochSum_eq, blochSum_eq,
    ← bloch_single χ Rs zeroV h0 (P i j) (v i j), ← Finset.sum_add_distrib]
  refine Finset.sum_congr rfl fun ir _ => ?_
  by_cases hc : ir = Rs.idxOf zeroV ∧ P i j
  · have : accumulate conj Rs hops ir i j = 0 := by
      rw [accumulate_eq, hc.1]
      refine List.sum_eq_zero fun x hx => ?_
      obtain ⟨g, hg, rfl⟩ := List.mem_map.mp hx
      exact contrib_zeroBlock_eq_zero conj h0 g i j (hz hc.2 g hg)
    rw [if_pos hc, if_pos hc, this, mul_zero, zero_add]
  · rw [if_neg hc, if_neg hc, mul_zero, add_zero]

/-! ### Hermiticity -/

theorem contrib_hermitian (conj : K → K) (hc0 : conj 0 = 0) (hadd : ∀ a b, conj (a + b) = conj a + conj b)
    (hinv : ∀ a, conj (conj a) = a) {Rs : List Vec3} {R : Vec3} (hR : R ∈ Rs) (hnR : negV R ∈ Rs) (h : Hop K)
    (i j : Nat) :
    contrib conj Rs h (Rs.idxOf (negV R)) j i = conj (contrib conj Rs h (Rs.idxOf R) i j) := by
  have k1 : Rs.idxOf (negV R) = Rs.idxOf h.R ↔ Rs.idxOf R = Rs.idxOf (negV h.R) := by
    rw [List.idxOf_inj hnR, List.idxOf_inj hR, negV_eq_iff]
  have k2 : Rs.idxOf (negV R) = Rs.idxOf (negV h.R) ↔ Rs.idxOf R = Rs.idxOf h.R := by
    rw [List.idxOf_inj hnR, List.idxOf_inj hR, negV_eq_iff, negV_negV]
  unfold contrib
  rw [hadd, apply_ite conj, apply_ite conj, hc0, hinv, add_comm]
  congr 1
  · exact if_congr (and_congr k2 and_comm) rfl rfl
  · exact if_congr (and_congr k1 and_comm) rfl rfl

theorem accumulate_hermitian (conj : K → K) (hc0 : conj 0 = 0) (hadd : ∀ a b, conj (a + b) = conj a + conj b)
    (hinv : ∀ a, conj (conj a) = a) (Rs : List Vec3) (R : Vec3) (hR : R ∈ Rs) (hnR : negV R ∈ Rs) (i j : Nat)
    (hops : List (Hop K)) :
    accumulate conj Rs hops (Rs.idxOf (negV R)) j i = conj (accumulate conj Rs hops (Rs.idxOf R) i j) := by
  rw [accumulate_eq, accumulate_eq]
  induction hops with
  | nil => exact hc0.symm
  | cons h t ih =>
    rw [List.map_cons, List.sum_cons, List.map_cons, List.sum_cons, hadd, ih,
      contrib_hermitian conj hc0 hadd hinv hR hnR]

/-! ### TBmodels matrices as elementary hoppings -/

theorem sum_flatMap {α : Type} (f : α → List K) (l : List α) :
    (l.flatMap f).sum = (l.map (fun a => (f a).sum)).sum := by
  rw [List.flatMap_def, List.sum_flatten, List.map_map]
  rfl

theorem sourceHops_flattenTbm (conj : K → K) (χ : Vec3 → K) (nw : Nat) (i j : Nat) (hi : i < nw) (hj : j < nw)
    (hop : List (Vec3 × (Nat → Nat → K))) :
    sourceHops conj χ (flattenTbm nw hop) i j
      = (hop.map (fun p => χ p.1 * p.2 i j + χ (negV p.1) * conj (p.2 j i))).sum := by
  unfold sourceHops flattenTbm
  rw [List.map_flatMap, sum_flatMap]
  refine congrArg List.sum (List.map_congr_left fun p _ => ?_)
  rw [List.map_flatMap, sum_flatMap]
  simp only [List.map_map, Function.comp_def]
  -- of the nw × nw elementary hoppings of `p.2` only `(i, j)` and its transpose `(j, i)` reach the entry `(i, j)`
  show ∑ a ∈ Finset.range nw, ∑ b ∈ Finset.range nw,
      ((if a = i ∧ b = j then χ p.1 * p.2 a b else 0) +
        (if b = i ∧ a = j then χ (negV p.1) * conj (p.2 a b) else 0)) = _
  rw [Finset.sum_congr rfl fun a _ => Finset.sum_add_distrib, Finset.sum_add_distrib]
  congr 1
  · simp only [and_comm (b := _ = j), ite_and, Finset.sum_ite_eq', Finset.mem_range, hi, hj, if_true]
  · simp only [ite_and, Finset.sum_ite_eq', Finset.mem_range, hi, hj, if_true]

end

end WB.C32
