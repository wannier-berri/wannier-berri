/-
  C13 — cumulative DOS of one k-point (Identity formula, no tetrahedra): non-decreasing along the Fermi grid,
  0 below all bands, NB above all bands.
-/
import WB.Lemmas.C13Sea
import WB.Lemmas.C14Groups
import Mathlib.Algebra.Order.BigOperators.Group.List

namespace WB.C13
open WB.C15 (blocks)

/-- cumulative DOS contribution of one k-point at Fermi index `j` -/
def cumdosK (Ef : Nat → Rat) (nEf : Nat) (E : Nat → Rat) (th : Rat) (nb : Nat) (kr : Bool) (j : Nat) : Rat :=
  resolved 0 Ef nEf (calcK 0 Ef nEf E th nb kr none sizeOf) j

theorem groupMean_le (E : Nat → Rat) (ab : Nat × Nat) (hab : ab.1 < ab.2) (x : Rat)
    (h : ∀ i, ab.1 ≤ i → i < ab.2 → E i ≤ x) : groupMean E ab ≤ x := by
  have := List.sum_le_card_nsmul ((List.range (ab.2 - ab.1)).map fun j => E (ab.1 + j)) x
    (List.forall_mem_map.mpr fun j hj => h _ (Nat.le_add_right _ _) (by have := List.mem_range.mp hj; omega))
  have hpos : (0 : Rat) < ((ab.2 - ab.1 : Nat) : Rat) := Nat.cast_pos.mpr (Nat.sub_pos_of_lt hab)
  rw [List.length_map, List.length_range, nsmul_eq_mul] at this
  unfold groupMean
  rwa [← List.sum_eq_foldl, div_le_iff₀ hpos, mul_comm]

theorem lt_groupMean (E : Nat → Rat) (ab : Nat × Nat) (hab : ab.1 < ab.2) (x : Rat)
    (h : ∀ i, ab.1 ≤ i → i < ab.2 → x < E i) : x < groupMean E ab := by
  have := List.sum_lt_sum_of_ne_nil (l := List.range (ab.2 - ab.1)) (by rw [Ne, List.range_eq_nil]; omega)
    (fun _ => x) (fun j => E (ab.1 + j))
    fun j hj => h _ (Nat.le_add_right _ _) (by have := List.mem_range.mp hj; omega)
  have hpos : (0 : Rat) < ((ab.2 - ab.1 : Nat) : Rat) := Nat.cast_pos.mpr (Nat.sub_pos_of_lt hab)
  rw [List.map_const', List.sum_replicate, List.length_range, nsmul_eq_mul] at this
  unfold groupMean
  rwa [← List.sum_eq_foldl, lt_div_iff₀ hpos, mul_comm]

theorem stepSum_of_below {groups : List Group} {x : Rat} (h : ∀ g ∈ groups, Below g.1 x) :
    stepSum groups x = (groups.map (·.2)).sum :=
  congrArg List.sum (List.map_congr_left fun g hg => if_pos (h g hg))

theorem stepSum_of_not_below {groups : List Group} {x : Rat} (h : ∀ g ∈ groups, ¬ Below g.1 x) :
    stepSum groups x = 0 :=
  List.sum_eq_zero fun y hy => by
    obtain ⟨g, hg, rfl⟩ := List.mem_map.mp hy
    exact if_neg (h g hg)

theorem stepVal_mono (g : Group) (hv : 0 ≤ g.2) {x y : Rat} (hxy : x ≤ y) : stepVal g x ≤ stepVal g y := by
  unfold stepVal
  by_cases h : Below g.1 x
  · rw [if_pos h, if_pos (h.mono hxy)]
  · rw [if_neg h]
    split
    · exact hv
    · exact le_rfl

theorem stepSum_mono (groups : List Group) (hv : ∀ g ∈ groups, 0 ≤ g.2) {x y : Rat} (hxy : x ≤ y) :
    stepSum groups x ≤ stepSum groups y :=
  List.sum_le_sum fun g hg => stepVal_mono g (hv g hg) hxy

/-- `seaBandmax` is definitionally C14's `lumpSize`, so C14's counting lemmas apply -/
theorem seaBandmax_eq (E : Nat → Rat) (n : Nat) (emin : Rat) (win : List (Nat × Nat)) :
    seaBandmax E n emin win = C14.lumpSize win (C14.bandsBelow E n (some emin)) := rfl

theorem windowGroups_eq_filter (E : Nat → Rat) (th : Rat) (nb : Nat) (kr : Bool) (hk : kr = true → nb % 2 = 0)
    (hsorted : ∀ i i', i ≤ i' → i' < nb → E i ≤ E i') (emin emax : Rat) (hmax : ∀ i, i < nb → E i ≤ emax) :
    windowGroups E th nb kr emin emax none =
      (blocks E th nb kr).filter (fun ab => decide (C14.bandsBelow E nb (some emin) < ab.2)) := by
  refine List.filter_congr fun ab hab => ?_
  obtain ⟨h1, h2⟩ := C14.blocks_bounds E th nb kr hk ab hab
  have hmin : C15.sliceMin E ab.1 ab.2 ≤ emax :=
    (C14.sliceMin_le_iff E ab.1 ab.2 emax).mpr (Or.inl (hmax _ (by omega)))
  simp only [selHits, hmin, decide_true, Bool.and_true, Bool.true_and, ge_iff_le,
    C14.sliceMax_ge_iff_bandsBelow_lt E nb ab.1 ab.2 h1 h2 hsorted]

/-- at a level `x ≥ emin` below all bands no group is counted, whatever the formula: the window groups have their mean
    above `x`, and no band lies below `emin`, so there is no lumped group -/
theorem stepSum_below (E : Nat → Rat) (th : Rat) (nb : Nat) (kr : Bool) (hk : kr = true → nb % 2 = 0)
    (emin emax : Rat) (sea : Bool) (sel : Option (List Nat)) (v : Nat × Nat → Rat) (x : Rat) (h0 : emin ≤ x)
    (hbelow : ∀ i, i < nb → x < E i) :
    stepSum (groupsWithValues E th nb kr emin emax sea sel v) x = 0 := by
  have hsb : seaBandmax E nb emin (windowGroups E th nb kr emin emax sel) = 0 := by
    rw [seaBandmax_eq, C14.bandsBelow_eq_zero E nb emin fun i hi => h0.trans (hbelow i hi).le, C14.lumpSize_zero]
  refine stepSum_of_not_below fun g hg => ?_
  simp only [groupsWithValues_eq, hsb, gt_iff_lt, lt_self_iff_false, decide_false, Bool.and_false,
    Bool.false_eq_true, if_false, List.append_nil] at hg
  obtain ⟨ab, hab, rfl⟩ := List.mem_map.mp hg
  have hb := C14.blocks_bounds E th nb kr hk ab (List.mem_filter.mp hab).1
  exact not_le.mpr (lt_groupMean E ab hb.1 x fun i _ hi => hbelow i (by omega))

theorem values_sizeOf_nonneg (E : Nat → Rat) (th : Rat) (nb : Nat) (kr : Bool) (emin emax : Rat) (sea : Bool) :
    ∀ g ∈ groupsWithValues E th nb kr emin emax sea none sizeOf, 0 ≤ g.2 := by
  intro g hg
  obtain ⟨g', _, rfl⟩ := List.mem_map.mp hg
  exact mul_nonneg (Nat.cast_nonneg _) zero_le_one

/-- at a level `x ≤ emax` above all (sorted) bands every band is counted exactly once: every group is counted
    (window groups by their mean energy, the lumped group always), and the groups partition the bands -/
theorem stepSum_sizeOf_above (E : Nat → Rat) (th : Rat) (nb : Nat) (kr : Bool) (hk : kr = true → nb % 2 = 0)
    (hsorted : ∀ i i', i ≤ i' → i' < nb → E i ≤ E i') (emin emax x : Rat) (hx : x ≤ emax)
    (habove : ∀ i, i < nb → E i ≤ x) :
    stepSum (groupsWithValues E th nb kr emin emax true none sizeOf) x = (nb : Rat) := by
  have hwin := windowGroups_eq_filter E th nb kr hk hsorted emin emax fun i hi => (habove i hi).trans hx
  have key := C14.blocks_filter_plus_lump E th nb kr hk _ (C14.bandsBelow_spec E nb emin hsorted).1
  simp only [groupsWithValues_eq]
  rw [stepSum_of_below, hwin, seaBandmax_eq, List.map_append, List.sum_append, List.map_map]
  · refine (congrArg₂ (· + ·) (congrArg List.sum (List.map_congr_left fun ab _ => mul_one _)) ?_).trans key
    generalize C14.lumpSize _ _ = L
    rcases Nat.eq_zero_or_pos L with rfl | hL
    · exact Nat.cast_zero.symm
    · rw [Bool.true_and, if_pos (decide_eq_true hL)]
      exact (add_zero _).trans (mul_one (L : Rat))
  · intro g hg
    rcases List.mem_append.mp hg with h | h
    · obtain ⟨ab, hab, rfl⟩ := List.mem_map.mp h
      have hb := C14.blocks_bounds E th nb kr hk ab (List.mem_filter.mp hab).1
      exact groupMean_le E ab hb.1 x fun i _ hi => habove i (by omega)
    · split at h
      · rw [List.mem_singleton.mp h]; trivial
      · cases h

end WB.C13
