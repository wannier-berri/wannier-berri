/-
  C26: lemmas for Props/C26 — `lookup` in a mapped matrix list, a Bloch sum as a sum over the R-vectors themselves,
  the algebra of the affine `mix` and its compatibility with `red`.
-/
import WB.Model.C26
import Mathlib.Algebra.Field.Basic
import Mathlib.Data.List.GetD
import Mathlib.Tactic.Ring

namespace WB.C26
open WB.C18 (Vec3 Name)

variable {K : Type}

theorem map_range_getD {α β} (d : α) (l : List α) (g : α → β) :
    (List.range l.length).map (fun i => g (l.getD i d)) = l.map g := by
  refine List.ext_getElem (by rw [List.length_map, List.length_range, List.length_map]) fun i _ h2 => ?_
  rw [List.length_map] at h2
  rw [List.getElem_map, List.getElem_range, List.getElem_map, List.getD_eq_getElem _ _ h2]

theorem lookup_map (f : Name → (Nat → Nat → K) → Nat → Nat → K) (l : List (Name × (Nat → Nat → K))) (k : Name) :
    lookup (l.map (fun p => (p.1, f p.1 p.2))) k = (lookup l k).map (f k) := by
  unfold lookup
  induction l with
  | nil => rfl
  | cons p t ih =>
    rw [List.map_cons, List.find?_cons, List.find?_cons]
    cases hb : (p.1 == k) with
    | true => rw [Option.map_some, Option.map_some, Option.map_some, eq_of_beq hb]
    | false => exact ih

variable [Field K]

/-- a Bloch sum as a sum over the R-vectors themselves -/
theorem blochSum_eq_map (χ : Vec3 → K) (Rs : List Vec3) (X : Nat → Nat → K) (c : Nat) (g : Vec3 → K)
    (h : ∀ i, i < Rs.length → χ (Rs.getD i (0, 0, 0)) * X i c = g (Rs.getD i (0, 0, 0))) :
    blochSum χ Rs X c = (Rs.map g).sum := by
  unfold blochSum
  rw [← map_range_getD ((0, 0, 0) : Vec3) Rs g]
  exact congrArg List.sum (List.map_congr_left fun i hi => h i (List.mem_range.mp hi))

theorem mix_eq (α a b : K) : mix α a b = a + α * (b - a) := by unfold mix; ring
theorem mix_zero (a b : K) : mix 0 a b = a := by rw [mix_eq, zero_mul, add_zero]
theorem mix_one (a b : K) : mix 1 a b = b := by rw [mix_eq, one_mul, add_sub_cancel]
theorem mix_affine (t α β a b : K) : mix ((1 - t) * α + t * β) a b = (1 - t) * mix α a b + t * mix β a b := by
  unfold mix; ring

theorem red_mix (Li : Nat → Nat → K) (α : K) (w0 w1 : Nat → Nat → K) (i c : Nat) :
    red Li (fun i c => mix α (w0 i c) (w1 i c)) i c = mix α (red Li w0 i c) (red Li w1 i c) := by
  unfold red mix; ring

end WB.C26
