/-
  C09: finite groups given as lists, and the closure loop of `PointGroup.__init__`.
-/
import WB.Lemmas.C09Alg
import Mathlib.Data.List.Nodup
import Mathlib.Data.List.Perm.Subperm

set_option linter.unusedSectionVars false

namespace WB.C09

structure ListGroup {α : Type} (mul : α → α → α) (L : List α) : Prop where
  nodup : L.Nodup
  closed : ∀ a ∈ L, ∀ b ∈ L, mul a b ∈ L
  cancel : ∀ a ∈ L, ∀ b ∈ L, ∀ c ∈ L, mul a b = mul a c → b = c

theorem ListGroup.perm_map_mul {α : Type} {mul : α → α → α} {L : List α} (h : ListGroup mul L) {a : α}
    (ha : a ∈ L) : (L.map (mul a)).Perm L := by
  have hnd : (L.map (mul a)).Nodup :=
    List.Nodup.map_on (fun b hb c hc e => h.cancel a ha b hb c hc e) h.nodup
  have hsub : L.map (mul a) ⊆ L := by
    intro x hx
    obtain ⟨b, hb, rfl⟩ := List.mem_map.1 hx
    exact h.closed a ha b hb
  exact (List.subperm_of_subset hnd hsub).perm_of_length_le (by simp)

theorem ListGroup.exists_mul_eq {α : Type} {mul : α → α → α} {L : List α} (h : ListGroup mul L) {a b : α}
    (ha : a ∈ L) (hb : b ∈ L) : ∃ x ∈ L, mul a x = b := by
  have := (h.perm_map_mul ha).mem_iff.2 hb
  obtain ⟨x, hx, e⟩ := List.mem_map.1 this
  exact ⟨x, hx, e⟩

section Generate
variable {F : Type} [Field F] [LinearOrder F] [IsStrictOrderedRing F]

theorem memL_iff (s : PSym F) (L : List (PSym F)) : memL s L = true ↔ s ∈ L := by
  simp [memL, PSym.eqv_iff]

/-- a predicate on lists that survives appending a new product of two members (one step of the closure loop) -/
def StepInv (Q : List (PSym F) → Prop) : Prop :=
  ∀ L a b, Q L → a ∈ L → b ∈ L → a.mul b ∉ L → Q (L ++ [a.mul b])

theorem stepInv_prefix (L0 : List (PSym F)) : StepInv fun M => ∃ T, M = L0 ++ T :=
  fun _ a b ⟨T, hT⟩ _ _ _ => ⟨T ++ [a.mul b], by rw [hT, List.append_assoc]⟩

theorem stepInv_nodup : StepInv (F := F) List.Nodup :=
  fun _ _ _ hM _ _ hab => List.concat_eq_append ▸ List.Nodup.concat hab hM

theorem stepInv_forall (P : PSym F → Prop) (hmul : ∀ a b, P a → P b → P (a.mul b)) :
    StepInv fun M => ∀ g ∈ M, P g := by
  intro M a b hM ha hb _ g hmem
  rcases List.mem_append.1 hmem with hmem | hmem
  · exact hM g hmem
  · rw [List.mem_singleton.1 hmem]; exact hmul a b (hM a ha) (hM b hb)

theorem passLoop_invariant (Q : List (PSym F) → Prop) (hQ : StepInv Q) :
    ∀ (fuel : Nat) (L : List (PSym F)) (i j : Nat) (L' : List (PSym F)),
      passLoop fuel L i j = some L' → Q L → Q L'
  | 0, L, i, j, L', h, _ => by simp [passLoop] at h
  | fuel + 1, L, i, j, L', h, hL => by
    unfold passLoop at h
    split at h
    · rename_i hi
      split at h
      · rename_i hj
        simp only at h
        split at h
        · exact passLoop_invariant Q hQ fuel L i (j + 1) L' h hL
        · rename_i hmem
          split at h
          · cases h
          · exact passLoop_invariant Q hQ fuel _ i (j + 1) L' h
              (hQ L _ _ hL (List.getElem_mem hi) (List.getElem_mem hj) fun hm => hmem ((memL_iff _ _).2 hm))
      · exact passLoop_invariant Q hQ fuel L (i + 1) 0 L' h hL
    · cases h; exact hL

/-- A pass that did not lengthen the list found the product of every pair `(a, b)` it had not yet visited when it stood
    at `(i, j)`, i.e. with `i < a ∨ (i = a ∧ j ≤ b)`. -/
theorem passLoop_closed : ∀ (fuel : Nat) (L : List (PSym F)) (i j : Nat) (L' : List (PSym F)),
    passLoop fuel L i j = some L' → L'.length = L.length →
      ∀ a b (ha : a < L.length) (hb : b < L.length), i < a ∨ (i = a ∧ j ≤ b) → (L[a]).mul (L[b]) ∈ L
  | 0, L, i, j, L', h => by simp [passLoop] at h
  | fuel + 1, L, i, j, L', h => by
    intro hl a b ha hb hnb
    unfold passLoop at h
    split at h
    · split at h
      · simp only at h
        split at h
        · rename_i hmem
          by_cases hab : a = i ∧ b = j
          · obtain ⟨rfl, rfl⟩ := hab
            exact (memL_iff _ _).1 hmem
          · exact passLoop_closed fuel L i (j + 1) L' h hl a b ha hb (by omega)
        · split at h
          · cases h
          · -- once something is appended the final list is longer, contradicting `hl`
            obtain ⟨T, rfl⟩ := passLoop_invariant _ (stepInv_prefix _) fuel _ i (j + 1) L' h ⟨[], (List.append_nil _).symm⟩
            simp at hl
      · exact passLoop_closed fuel L (i + 1) 0 L' h hl a b ha hb (by omega)
    · omega

theorem readGens_concat (l : List (PSym F)) (g : PSym F) :
    readGens (l ++ [g]) = if memL g (readGens l) then readGens l else readGens l ++ [g] := by
  unfold readGens; rw [List.foldl_append]; rfl

theorem readGens_nodup (gens : List (PSym F)) : (readGens gens).Nodup := by
  induction gens using List.reverseRecOn with
  | nil => exact List.nodup_nil
  | append_singleton l g ih =>
    rw [readGens_concat]
    split
    · exact ih
    · rename_i hm
      exact List.concat_eq_append ▸ List.Nodup.concat (fun h => hm ((memL_iff _ _).2 h)) ih

theorem mem_readGens (gens : List (PSym F)) (x : PSym F) : x ∈ readGens gens ↔ x ∈ gens := by
  induction gens using List.reverseRecOn generalizing x with
  | nil => rfl
  | append_singleton l g ih =>
    rw [readGens_concat]
    split <;> simp_all [memL_iff]

def Closed (L : List (PSym F)) : Prop := ∀ a ∈ L, ∀ b ∈ L, a.mul b ∈ L

theorem whileLoop_invariant (Q : List (PSym F) → Prop) (hQ : StepInv Q) :
    ∀ (n : Nat) (L L' : List (PSym F)), whileLoop n L = some L' → Q L → Q L'
  | 0, L, L', h, _ => by simp [whileLoop] at h
  | n + 1, L, L', h, hL => by
    unfold whileLoop at h
    split at h
    · cases h
    · rename_i L1 hpass
      have h1 := passLoop_invariant Q hQ _ _ _ _ _ hpass hL
      split at h
      · cases h; exact h1
      · exact whileLoop_invariant Q hQ n L1 L' h h1

/-- the loop stops after a pass that added nothing: then every product is in the list -/
theorem whileLoop_closed : ∀ (n : Nat) (L L' : List (PSym F)), whileLoop n L = some L' → Closed L'
  | 0, L, L', h => by simp [whileLoop] at h
  | n + 1, L, L', h => by
    unfold whileLoop at h
    split at h
    · cases h
    · rename_i L1 hpass
      split at h
      · rename_i hlen
        cases h
        obtain ⟨T, rfl⟩ := passLoop_invariant _ (stepInv_prefix L) _ _ _ _ _ hpass ⟨[], by simp⟩
        obtain rfl : T = [] := List.length_eq_zero_iff.1 (by simpa using hlen)
        rw [List.append_nil] at hpass ⊢
        intro a ha b hb
        obtain ⟨ia, hia, rfl⟩ := List.getElem_of_mem ha
        obtain ⟨ib, hib, rfl⟩ := List.getElem_of_mem hb
        exact passLoop_closed _ _ _ _ _ hpass rfl ia ib hia hib (by omega)
      · exact whileLoop_closed n L1 L' h

/-- The list of operations of a point group (duplicate free, closed, proper) is a list-group. -/
theorem listGroup_of_closed (L : List (PSym F)) (hnd : L.Nodup) (hcl : Closed L) (hp : ∀ g ∈ L, g.Proper) :
    ListGroup PSym.mul L :=
  ⟨hnd, hcl, fun a ha b hb c hc e => PSym.mul_left_cancel a b c (hp a ha) (hp b hb) (hp c hc) e⟩

end Generate

end WB.C09
