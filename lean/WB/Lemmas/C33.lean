/-
  C33 — corner phases: multiplicativity of an abstract exponential, phase arrays; folding of k.p corner points.
  (Vocabulary: head of `WB/Props/C33.lean`.)
-/
import WB.Model.C33
import WB.Lemmas.C01Basic
import Mathlib.Algebra.Module.Basic
import Mathlib.Tactic.Abel
import Mathlib.Algebra.Order.Floor.Ring
import Mathlib.Data.Rat.Floor

namespace WB.C33
open WB.C01 WB.C02

section
variable {K : Type} [Field K] {A : Type} [AddCommGroup A]

/-- abstract exponential -/
structure IsExp (ex : A → K) : Prop where
  add : ∀ x y, ex (x + y) = ex x * ex y
  zero : ex 0 = 1

theorem IsExp.mul_neg {ex : A → K} (h : IsExp ex) (x : A) : ex x * ex (-x) = 1 := by
  rw [← h.add, add_neg_cancel, h.zero]

theorem IsExp.ne_zero {ex : A → K} (h : IsExp ex) (x : A) : ex x ≠ 0 :=
  left_ne_zero_of_mul_eq_one (h.mul_neg x)

theorem IsExp.neg {ex : A → K} (h : IsExp ex) (x : A) : ex (-x) = (ex x)⁻¹ :=
  eq_inv_of_mul_eq_one_right (h.mul_neg x)

/-- `k·R` -/
def kdot (k : A × A × A) (R : Vec3) : A := R.1 • k.1 + R.2.1 • k.2.1 + R.2.2 • k.2.2

def kadd (k k' : A × A × A) : A × A × A := (k.1 + k'.1, k.2.1 + k'.2.1, k.2.2 + k'.2.2)

theorem kdot_add (k k' : A × A × A) (R : Vec3) : kdot (kadd k k') R = kdot k R + kdot k' R := by
  simp only [kdot, kadd, smul_add]
  abel

/-- the corner vector `((ix,iy,iz) − ½)∘dK` written with the half steps `h = dK/2`: `±h_i`
    (`true ↦ +h_i`, `false ↦ −h_i`, as `cornerFactor` takes the inverse for `false`) -/
def cornerVec (h : A × A × A) (ix iy iz : Bool) : A × A × A :=
  (if ix then h.1 else -h.1, if iy then h.2.1 else -h.2.1, if iz then h.2.2 else -h.2.2)

theorem cornerFactor_eq {ex : A → K} (hex : IsExp ex) (h : A) (up : Bool) (r : Int) :
    cornerFactor (fun r => ex (r • h)) up r = ex (r • (if up then h else -h)) := by
  cases up
  · show (ex (r • h))⁻¹ = ex (r • -h)
    rw [smul_neg, hex.neg]
  · rfl

end

section arrays
variable {K : Type} [Field K]

theorem applyExpdK_fst (χd : Vec3 → K) (entries : List (Vec3 × K)) :
    (applyExpdK χd entries).map (·.1) = entries.map (·.1) := by
  unfold applyExpdK
  rw [List.map_map]
  rfl

theorem applyExpdK_twice (χd φ : Vec3 → K) (entries : List (Vec3 × K)) :
    applyExpdK φ (applyExpdK χd entries) = applyExpdK (fun R => χd R * φ R) entries := by
  unfold applyExpdK
  rw [List.map_map]
  apply List.map_congr_left
  intro e _
  simp only [Function.comp, mul_assoc]

end arrays

/-! ### k.p corners: folding into the box -/

theorem frac1_eq_fract (x : Rat) : frac1 x = Int.fract x := rfl

/-- reducing the k-point modulo 1 first (`kpoints_all = (points + dK) % 1`) does not change the folded argument
    `fold1 x = (x + ½) mod 1 − ½` -/
theorem fold1_frac1_add (x v : Rat) : fold1 (frac1 x + v) = fold1 (x + v) := by
  have : frac1 x + v + 1 / 2 = (x + v + 1 / 2) - ((⌊x⌋ : Int) : Rat) := by
    rw [frac1_eq_fract, Int.fract]; ring
  rw [fold1, fold1, this, frac1_eq_fract, frac1_eq_fract, Int.fract_sub_intCast]

theorem foldV_fracV_add (k v : QVec3) : foldV (qadd (fracV k) v) = foldV (qadd k v) := by
  simp only [foldV, fracV, qadd, fold1_frac1_add]

end WB.C33
