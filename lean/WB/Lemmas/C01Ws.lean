/-
  C01 — Wigner-Seitz selection: classes (`classMin`, `selClass`), weights and regrouping of weighted sums,
  `shift_index` look-up (`selOf_eq`), oddness of the shift rounding.
-/
import WB.Lemmas.C01Basic
import Mathlib.Algebra.Order.Floor.Ring
import Mathlib.Data.Rat.Floor

namespace WB.C01

theorem withinTol_self (tol q : Rat) (htol : tol ≠ 0) : withinTol tol q q = true := by
  unfold withinTol
  simp only [Bool.or_eq_true, decide_eq_true_eq]
  left
  have := mul_self_pos.mpr htol
  linarith

/-- minimum squared distance over the searched replicas of a grid point (`qmin` inside the model's `wsClass`) -/
def classMin (ws : Nat) (G : Gram) (mp : Mesh) (s : QVec3) (c : Vec3) : Rat :=
  minList (dist2 G s c) ((candidates ws mp c).map (dist2 G s))

/-- the list of selected replicas of a class, before pairing with `Ndegen` (`sel` inside the model's `wsClass`) -/
def selClass (ws : Nat) (G : Gram) (mp : Mesh) (tol : Rat) (s : QVec3) (c : Vec3) : List Vec3 :=
  (candidates ws mp c).filter fun R => withinTol tol (dist2 G s R) (classMin ws G mp s c)

variable (ws : Nat) (G : Gram) (mp : Mesh) (tol : Rat) (s : QVec3) (c : Vec3)

theorem wsClass_eq :
    wsClass ws G mp tol s c = (selClass ws G mp tol s c).map fun R => (R, (selClass ws G mp tol s c).length) := rfl

theorem mem_selClass (R : Vec3) :
    R ∈ selClass ws G mp tol s c ↔
      R ∈ candidates ws mp c ∧ withinTol tol (dist2 G s R) (classMin ws G mp s c) = true :=
  List.mem_filter

theorem classMin_le (R : Vec3) (hR : R ∈ candidates ws mp c) :
    classMin ws G mp s c ≤ dist2 G s R :=
  minList_le _ _ _ (List.mem_cons_of_mem _ (List.mem_map.mpr ⟨R, hR, rfl⟩))

theorem classMin_attained :
    ∃ R ∈ candidates ws mp c, dist2 G s R = classMin ws G mp s c := by
  rcases minList_mem (dist2 G s c) ((candidates ws mp c).map (dist2 G s)) with h | h
  · exact ⟨c, self_mem_candidates ws mp c, h.symm⟩
  · exact List.mem_map.mp h

theorem selClass_ne_nil (htol : tol ≠ 0) :
    selClass ws G mp tol s c ≠ [] := by
  obtain ⟨R, hR, hq⟩ := classMin_attained ws G mp s c
  exact List.ne_nil_of_mem ((mem_selClass ..).2 ⟨hR, hq ▸ withinTol_self tol _ htol⟩)

theorem mem_wsClass (p : Vec3 × Nat) :
    p ∈ wsClass ws G mp tol s c ↔ p.1 ∈ selClass ws G mp tol s c ∧ p.2 = (selClass ws G mp tol s c).length := by
  rw [wsClass_eq, List.mem_map]
  constructor
  · rintro ⟨R, hR, rfl⟩; exact ⟨hR, rfl⟩
  · rintro ⟨h1, h2⟩; exact ⟨p.1, h1, by rw [← h2]⟩

theorem selClass_sub_candidates (R : Vec3)
    (h : R ∈ selClass ws G mp tol s c) : R ∈ candidates ws mp c :=
  ((mem_selClass ..).1 h).1

section weights
variable {K : Type} [Field K]

theorem weightOf_cons (p : Vec3 × Nat) (sel : List (Vec3 × Nat)) (R : Vec3) :
    (weightOf (p :: sel) R : K) = (if p.1 = R then (((p.2 : Nat) : K))⁻¹ else 0) + weightOf sel R := by
  unfold weightOf
  by_cases h : p.1 = R
  · simp [h, sumK_cons]
  · simp [h]

theorem weightOf_nil (R : Vec3) : (weightOf [] R : K) = 0 := rfl

theorem sum_weightOf (iRvec : List Vec3) (hnd : iRvec.Nodup) (sel : List (Vec3 × Nat))
    (hsub : ∀ p ∈ sel, p.1 ∈ iRvec) (f : Vec3 → K) :
    sumK (iRvec.map fun R => f R * weightOf sel R) = sumK (sel.map fun p => f p.1 * (((p.2 : Nat) : K))⁻¹) :=
  sumK_fibres iRvec hnd sel Prod.fst hsub f fun p => (((p.2 : Nat) : K))⁻¹

variable [CharZero K]

/-- a function with one value `v` on the selected replicas of a class sums, with the weights `1/Ndegen`, to `v`:
    the class has `Ndegen` members, each contributing `v/Ndegen` -/
theorem sum_wsClass (htol : tol ≠ 0) (f : Vec3 → K) (v : K) (hf : ∀ R ∈ selClass ws G mp tol s c, f R = v) :
    sumK ((wsClass ws G mp tol s c).map fun p => f p.1 * (((p.2 : Nat) : K))⁻¹) = v := by
  rw [wsClass_eq, List.map_map, sumK_map_congr (selClass ws G mp tol s c) _
      (fun _ => v * (((selClass ws G mp tol s c).length : K))⁻¹) fun R hR => by rw [Function.comp_apply, hf R hR],
    sumK_map_mul_left, sumK_map_inv_length _ (selClass_ne_nil ws G mp tol s c htol), mul_one]

/-- hence a function that is constant on every class sums, weighted over the whole selection, to its plain sum over
    the grid points -/
theorem sum_wsSelect (htol : tol ≠ 0)
    (f : Vec3 → K) (hf : ∀ R, f R = f (vmod R mp)) :
    sumK ((wsSelect ws G mp tol s).map fun p => f p.1 * (((p.2 : Nat) : K))⁻¹)
      = sumK ((gridPoints mp).map f) := by
  unfold wsSelect
  rw [sumK_flatMap]
  exact sumK_map_congr _ _ _ fun c hc => sum_wsClass ws G mp tol s c htol f (f c) fun R hR => by
    rw [hf R, vmod_candidate ws mp c R hc (selClass_sub_candidates ws G mp tol s c R hR)]

end weights

/-! ### shift classes -/

theorem mem_allPairs (n a b : Nat) : (a, b) ∈ allPairs n ↔ a < n ∧ b < n := by
  unfold allPairs
  simp only [List.mem_flatMap, List.mem_map, List.mem_range, Prod.mk.injEq]
  constructor
  · rintro ⟨a', ha, b', hb, rfl, rfl⟩; exact ⟨ha, hb⟩
  · rintro ⟨ha, hb⟩; exact ⟨a, ha, b, hb, rfl, rfl⟩

theorem shiftOf_mem_uniqueShifts (nd : Nat) (cs : List QVec3) (a b : Nat) (ha : a < cs.length) (hb : b < cs.length) :
    shiftOf nd cs a b ∈ uniqueShifts nd cs := by
  unfold uniqueShifts
  rw [List.mem_mergeSort, mem_dedup, List.mem_map]
  exact ⟨(a, b), (mem_allPairs _ a b).2 ⟨ha, hb⟩, rfl⟩

/-- looking the selection up through `shift_index` gives the selection of the pair's own (rounded) shift -/
theorem selOf_eq (cs : List QVec3) (a b : Nat)
    (ha : a < cs.length) (hb : b < cs.length) :
    selOf ws G mp tol cs a b = wsSelect ws G mp (absRat tol) (shiftOf (numDigits tol) cs a b) := by
  unfold selOf selFrom selList shiftIndex
  have hmem := shiftOf_mem_uniqueShifts (numDigits tol) cs a b ha hb
  have hlt := List.idxOf_lt_length_of_mem hmem
  rw [List.getD_eq_getElem?_getD, List.getElem?_map, List.getElem?_eq_getElem hlt]
  simp only [Option.map_some, Option.getD_some]
  rw [List.getElem_idxOf]

theorem selOf_sub_iRvecOf (cs : List QVec3) (a b : Nat)
    (ha : a < cs.length) (hb : b < cs.length) :
    ∀ p ∈ selOf ws G mp tol cs a b, p.1 ∈ iRvecOf ws G mp tol cs := by
  intro p hp
  rw [selOf_eq ws G mp tol cs a b ha hb] at hp
  unfold iRvecOf iRvecFrom selList
  rw [mem_dedup, List.mem_flatMap]
  exact ⟨_, List.mem_map.mpr ⟨_, shiftOf_mem_uniqueShifts (numDigits tol) cs a b ha hb, rfl⟩,
    List.mem_map.mpr ⟨p, hp, rfl⟩⟩

theorem nodup_iRvecOf (cs : List QVec3) :
    (iRvecOf ws G mp tol cs).Nodup := nodup_dedup _

theorem absRat_ne_zero (t : Rat) (h : t ≠ 0) : absRat t ≠ 0 := by
  unfold absRat
  split
  · exact neg_ne_zero.2 h
  · exact h

/-! ### rounding of the shifts is odd -/

theorem roundHalfEven_add (f : Int) (r : Rat) (h0 : 0 ≤ r) (h1 : r < 1) :
    roundHalfEven (f + r) = if r < 1 / 2 then f else if r > 1 / 2 then f + 1 else if f % 2 = 0 then f else f + 1 := by
  have hf : ((f : Rat) + r).floor = f := Int.floor_eq_iff.2 ⟨le_add_of_nonneg_right h0, (add_lt_add_iff_left _).2 h1⟩
  unfold roundHalfEven
  simp only [hf, add_sub_cancel_left]

theorem roundHalfEven_neg (x : Rat) : roundHalfEven (-x) = -roundHalfEven x := by
  obtain ⟨f, r, h0, h1, rfl⟩ : ∃ (f : Int) (r : Rat), 0 ≤ r ∧ r < 1 ∧ x = f + r :=
    ⟨⌊x⌋, Int.fract x, Int.fract_nonneg x, Int.fract_lt_one x, (Int.floor_add_fract x).symm⟩
  rw [roundHalfEven_add f r h0 h1]
  rcases h0.eq_or_lt with rfl | h0
  · -- an integer
    have e : -((f : Rat) + 0) = ((-f : Int) : Rat) + 0 := by rw [Int.cast_neg, add_zero, add_zero]
    rw [e, roundHalfEven_add (-f) 0 le_rfl one_pos, if_pos one_half_pos, if_pos one_half_pos]
  · -- `-(f + r) = (-f - 1) + (1 - r)` with `0 < 1 - r < 1`, and `1 - r` lies on the other side of `1/2`
    have e : -((f : Rat) + r) = ((-f - 1 : Int) : Rat) + (1 - r) := by push_cast; ring
    have half : (1 : Rat) - 1 / 2 = 1 / 2 := by norm_num
    have k1 : 1 - r < 1 / 2 ↔ 1 / 2 < r := by rw [sub_lt_comm, half]
    have k2 : 1 / 2 < 1 - r ↔ r < 1 / 2 := by rw [lt_sub_comm, half]
    rw [e, roundHalfEven_add (-f - 1) (1 - r) (sub_nonneg.2 h1.le) (sub_lt_self 1 h0)]
    simp only [k1, k2, gt_iff_lt]
    rcases lt_trichotomy r (1 / 2) with h | rfl | h
    · rw [if_neg (lt_asymm h), if_pos h, if_pos h, Int.sub_add_cancel]
    · simp only [lt_irrefl, if_false]
      have key : (-f - 1) % 2 = 0 ↔ ¬f % 2 = 0 := by omega
      by_cases hf : f % 2 = 0
      · rw [if_neg fun h => key.1 h hf, if_pos hf, Int.sub_add_cancel]
      · rw [if_pos (key.2 hf), if_neg hf, Int.neg_add]; rfl
    · rw [if_pos h, if_neg (lt_asymm h), if_pos h, Int.neg_add]; rfl

theorem roundDec_neg (nd : Nat) (x : Rat) : roundDec nd (-x) = -roundDec nd x := by
  unfold roundDec
  rw [neg_mul, roundHalfEven_neg]
  push_cast
  ring

end WB.C01
