/-
  C31 helper lemmas: assembling the facts about the stencil returned by `find_shells`.
-/
import WB.Lemmas.C31
import WB.Lemmas.C31Shells
import WB.Lemmas.C31Neg
import Mathlib.Tactic.FinCases
import Mathlib.Data.Fintype.Basic

namespace WB.C31

/-! ### the stencil built from the returned list -/

theorem toStencil_append (basis : Fin 3 → Fin 3 → Rat) (dk : Rat) (l1 l2 : List (Rat × I3)) :
    toStencil basis dk (l1 ++ l2) = toStencil basis dk l1 ++ toStencil basis dk l2 := by
  simp [toStencil]

/-- second moment of one shell with a common weight -/
theorem mom2_shell (basis : Fin 3 → Fin 3 → Rat) (dk w : Rat) (a c : Fin 3) : ∀ vecs : List I3,
    mom2 (toStencil basis dk (vecs.map (fun m => (w, m)))) a c = w * shellMat basis vecs a c
  | [] => by simp [mom2, mom, toStencil, shellMat]
  | m :: vecs => by
    have ih := mom2_shell basis dk w a c vecs
    simp only [mom2, toStencil, shellMat, List.map_cons, List.map_map, mom, List.sum_cons] at ih ⊢
    rw [ih]; ring

/-- the part of `check_eye` carried by the returned vectors / dropped by the `abs(w) > eps` filter -/
def keptEye (M : Nat → Fin 3 → Fin 3 → Rat) (eps : Rat) (sel : List Nat) (ws : List Rat) (a c : Fin 3) : Rat :=
  ((sel.zip ws).map (fun kw => if absQ kw.2 > eps then kw.2 * M kw.1 a c else 0)).sum

def droppedEye (M : Nat → Fin 3 → Fin 3 → Rat) (eps : Rat) (sel : List Nat) (ws : List Rat) (a c : Fin 3) : Rat :=
  ((sel.zip ws).map (fun kw => if absQ kw.2 > eps then 0 else kw.2 * M kw.1 a c)).sum

theorem kept_add_dropped (M : Nat → Fin 3 → Fin 3 → Rat) (eps : Rat) (sel : List Nat) (ws : List Rat) (a c : Fin 3) :
    keptEye M eps sel ws a c + droppedEye M eps sel ws a c = checkEye M sel ws a c := by
  unfold keptEye droppedEye checkEye
  induction sel.zip ws with
  | nil => simp
  | cons kw l ih =>
    simp only [List.map_cons, List.sum_cons]
    split <;> linear_combination ih

theorem mom2_expandF (basis : Fin 3 → Fin 3 → Rat) (dk eps : Rat) (vecsOf : Nat → List I3) (sel : List Nat) (ws : List Rat)
    (a c : Fin 3) :
    mom2 (toStencil basis dk (expandF vecsOf eps sel ws)) a c
      = keptEye (fun k => shellMat basis (vecsOf k)) eps sel ws a c := by
  unfold expandF keptEye
  induction sel.zip ws with
  | nil => simp [mom2, mom, toStencil]
  | cons kw l ih =>
    rw [List.flatMap_cons, toStencil_append]
    unfold mom2 at ih ⊢
    rw [mom_append, ih, List.map_cons, List.sum_cons]
    congr 1
    split
    · rename_i h
      simp only [decide_eq_true_eq] at h
      rw [if_pos h]
      exact mom2_shell basis dk kw.2 a c (vecsOf kw.1)
    · rename_i h
      simp only [decide_eq_true_eq] at h
      rw [if_neg h]
      simp [mom, toStencil]

/-! ### closed under negation -/

theorem toStencil_neg (basis : Fin 3 → Fin 3 → Rat) (dk : Rat) (st : List (Rat × I3)) :
    (toStencil basis dk st).map BPoint.neg = toStencil basis dk (st.map (fun wm => (wm.1, negI wm.2))) := by
  unfold toStencil
  rw [List.map_map, List.map_map]
  apply List.map_congr_left
  intro wm _
  simp only [Function.comp, BPoint.neg, BPoint.mk.injEq, true_and]
  constructor
  · funext a
    fin_cases a <;> simp [negI]
  · funext c; exact (cartI_negI basis wm.2 c).symm

theorem expandF_neg_perm (vecsOf : Nat → List I3) (hv : ∀ k, ((vecsOf k).map negI).Perm (vecsOf k)) (eps : Rat)
    (sel : List Nat) (ws : List Rat) :
    ((expandF vecsOf eps sel ws).map (fun wm => (wm.1, negI wm.2))).Perm (expandF vecsOf eps sel ws) := by
  unfold expandF
  rw [List.map_flatMap]
  apply List.Perm.flatMap_left
  intro kw _
  split
  · rw [List.map_map]
    have : ((fun wm : Rat × I3 => (wm.1, negI wm.2)) ∘ fun m => (kw.2, m)) = (fun m => (kw.2, m)) ∘ negI := rfl
    rw [this, ← List.map_map]
    exact (hv kw.1).map _
  · simp

end WB.C31
