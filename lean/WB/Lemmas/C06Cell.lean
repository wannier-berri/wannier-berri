/-
  C06 helper lemmas: the children of `divide` tile the parent's half-open cell (one direction at a time).
-/
import WB.Model.C06
import Mathlib.Data.Rat.Floor

namespace WB.C06

/-- centre of child number `x` along one direction -/
def childC (K dK : Rat) (n x : Nat) : Rat := K + (-dK + dK / n) / 2 + dK / n * x

theorem child_interval (K dK : Rat) (n x : Nat) :
    childC K dK n x - dK / n / 2 = (K - dK / 2) + dK / n * x ∧
    childC K dK n x + dK / n / 2 = (K - dK / 2) + dK / n * (x + 1) := by
  unfold childC
  constructor <;> ring

/-- in units of the child width, measured from the parent's lower end, child `x` is `[x, x + 1)` -/
theorem childCell_iff (K dK p : Rat) (n x : Nat) (hn : 0 < n) (hd : 0 < dK) :
    (childC K dK n x - dK / n / 2 ≤ p ∧ p < childC K dK n x + dK / n / 2) ↔
      (x : Rat) ≤ (p - (K - dK / 2)) / (dK / n) ∧ (p - (K - dK / 2)) / (dK / n) < x + 1 := by
  have hw : 0 < dK / n := div_pos hd (by exact_mod_cast hn)
  rw [(child_interval K dK n x).1, (child_interval K dK n x).2, le_div_iff₀ hw, div_lt_iff₀ hw, le_sub_iff_add_le',
    sub_lt_iff_lt_add', mul_comm (x : Rat), mul_comm ((x : Rat) + 1)]

/-- in the same units the parent is `[0, n)` -/
theorem parentCell_iff (K dK p : Rat) (n : Nat) (hn : 0 < n) (hd : 0 < dK) :
    (K - dK / 2 ≤ p ∧ p < K + dK / 2) ↔
      0 ≤ (p - (K - dK / 2)) / (dK / n) ∧ (p - (K - dK / 2)) / (dK / n) < n := by
  have hn' : (n : Rat) ≠ 0 := by exact_mod_cast hn.ne'
  have hw : 0 < dK / n := div_pos hd (by exact_mod_cast hn)
  rw [le_div_iff₀ hw, div_lt_iff₀ hw, mul_div_cancel₀ dK hn', zero_mul, sub_nonneg, sub_lt_iff_lt_add',
    sub_add_eq_add_sub, add_sub_assoc, sub_half]

theorem cell1_cover (K dK p : Rat) (n : Nat) (hn : 0 < n) (hd : 0 < dK)
    (h : K - dK / 2 ≤ p ∧ p < K + dK / 2) :
    ∃ x : Nat, x < n ∧ childC K dK n x - dK / n / 2 ≤ p ∧ p < childC K dK n x + dK / n / 2 := by
  obtain ⟨t0, tn⟩ := (parentCell_iff K dK p n hn hd).mp h
  exact ⟨_, (Nat.floor_lt t0).mpr tn, (childCell_iff K dK p n _ hn hd).mpr ⟨Nat.floor_le t0, Nat.lt_floor_add_one _⟩⟩

theorem cell1_inside (K dK p : Rat) (n x : Nat) (hn : 0 < n) (hd : 0 < dK) (hx : x < n)
    (h : childC K dK n x - dK / n / 2 ≤ p ∧ p < childC K dK n x + dK / n / 2) :
    K - dK / 2 ≤ p ∧ p < K + dK / 2 := by
  obtain ⟨a, b⟩ := (childCell_iff K dK p n x hn hd).mp h
  exact (parentCell_iff K dK p n hn hd).mpr ⟨(Nat.cast_nonneg x).trans a, b.trans_le (by exact_mod_cast hx)⟩

theorem cell1_unique (K dK p : Rat) (n x x' : Nat) (hn : 0 < n) (hd : 0 < dK)
    (h : childC K dK n x - dK / n / 2 ≤ p ∧ p < childC K dK n x + dK / n / 2)
    (h' : childC K dK n x' - dK / n / 2 ≤ p ∧ p < childC K dK n x' + dK / n / 2) : x = x' := by
  have a := (childCell_iff K dK p n x hn hd).mp h
  have a' := (childCell_iff K dK p n x' hn hd).mp h'
  have t0 := (Nat.cast_nonneg x).trans a.1
  exact ((Nat.floor_eq_iff t0).mpr a).symm.trans ((Nat.floor_eq_iff t0).mpr a')

/-- the cell of a child, direction by direction, in terms of `childC` -/
theorem inCell_child (kp : KPoint) (n c : Idx) (p : V3) :
    inCell (child kp n c) p ↔
      (childC kp.K.x kp.dK.x n.1 c.1 - kp.dK.x / n.1 / 2 ≤ p.x ∧ p.x < childC kp.K.x kp.dK.x n.1 c.1 + kp.dK.x / n.1 / 2) ∧
      (childC kp.K.y kp.dK.y n.2.1 c.2.1 - kp.dK.y / n.2.1 / 2 ≤ p.y ∧ p.y < childC kp.K.y kp.dK.y n.2.1 c.2.1 + kp.dK.y / n.2.1 / 2) ∧
      (childC kp.K.z kp.dK.z n.2.2 c.2.2 - kp.dK.z / n.2.2 / 2 ≤ p.z ∧ p.z < childC kp.K.z kp.dK.z n.2.2 c.2.2 + kp.dK.z / n.2.2 / 2) := by
  unfold inCell child childC
  exact Iff.rfl

end WB.C06
