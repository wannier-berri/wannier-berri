/-
  Soundness of the covariant-expression syntax of `WB/Model/C04.lean`: every expression built from covariant atoms by
  sums, differences, scalar multiples, products over a shared index set, Hermitian conjugation and element-wise
  factors depending on the two band energies is covariant under unitary rotations of the inner and of the outer
  states that mix only states of exactly equal energy.
-/
import WB.Lemmas.C04Gauge

namespace WB.C04
open Matrix

variable {K : Type} [Field K] [StarRing K]

/-- a gauge change: one unitary per index set, mixing only states of exactly equal energy -/
structure Gauge (env : BEnv K) where
  U : (s : Side) → Matrix (Fin (env.dim s)) (Fin (env.dim s)) K
  unitary : ∀ s, U s * (U s)ᴴ = 1
  energy : ∀ s (i j : Fin (env.dim s)), U s i j ≠ 0 → env.en s i = env.en s j

/-- **Soundness.**  If every atom block transforms covariantly, so does every expression: `toMat` of an `eval` is,
    by definition, the matrix operation applied to the `toMat`s of the parts, and each matrix operation commutes
    with the gauge change (`cj_add`, …, `cj_mul`, `cj_conjTranspose`, `cj_had`). -/
theorem covariant_sound (env : BEnv K) (g : Gauge env)
    (blk' : String → ℕ → List ℕ → Side → Side → ℕ → ℕ → K)
    (hatom : ∀ name der cs r c, toMat (env.dim r) (env.dim c) (blk' name der cs r c)
      = cj (g.U r) (g.U c) (toMat (env.dim r) (env.dim c) (env.blk name der cs r c)))
    {r c : Side} (e : CExpr K r c) :
    toMat (env.dim r) (env.dim c) (e.eval star { env with blk := blk' })
      = cj (g.U r) (g.U c) (toMat (env.dim r) (env.dim c) (e.eval star env)) := by
  induction e with
  | atom name der cs r c => exact hatom name der cs r c
  | zero r c => exact (cj_zero _ _).symm
  | add a b iha ihb => exact (congrArg₂ (· + ·) iha ihb).trans (cj_add _ _ _ _).symm
  | sub a b iha ihb => exact (congrArg₂ (· - ·) iha ihb).trans (cj_sub _ _ _ _).symm
  | neg a iha => exact (congrArg (- ·) iha).trans (cj_neg _ _ _).symm
  | smul k a iha => exact (congrArg (k • ·) iha).trans (cj_smul _ _ _ _).symm
  | @mul r m c a b iha ihb =>
    exact (toMat_mul _ _ _ _ _).trans ((congrArg₂ (· * ·) iha ihb).trans
      ((cj_mul _ _ _ (g.unitary m) _ _).trans (congrArg _ (toMat_mul _ _ _ _ _).symm)))
  | herm a iha => exact (congrArg (·ᴴ) iha).trans (cj_conjTranspose _ _ _)
  | @had r c φ a iha =>
    exact (congrArg (fun M : Matrix (Fin (env.dim r)) (Fin (env.dim c)) K =>
        Matrix.of fun i j => M i j * φ (env.en r i) (env.en c j)) iha).trans
      (cj_had _ _ _ (fun i => env.en r i) (fun j => env.en c j) φ (g.energy r) (g.energy c)).symm

/-- the trace of every inner-block expression (what `Formula_ln.trace` returns, before `.real`) is gauge invariant -/
theorem trace_sound (env : BEnv K) (g : Gauge env)
    (blk' : String → ℕ → List ℕ → Side → Side → ℕ → ℕ → K)
    (hatom : ∀ name der cs r c, toMat (env.dim r) (env.dim c) (blk' name der cs r c)
      = cj (g.U r) (g.U c) (toMat (env.dim r) (env.dim c) (env.blk name der cs r c)))
    {r : Side} (e : CExpr K r r) :
    traceM (env.dim r) (e.eval star { env with blk := blk' }) = traceM (env.dim r) (e.eval star env) := by
  rw [traceM_eq, traceM_eq]
  exact (congrArg trace (covariant_sound env g blk' hatom e)).trans (trace_cj _ _ (g.unitary r))

end WB.C04
