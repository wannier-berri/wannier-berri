/-
  C09: `symmetrize_tensor` as a list sum divided by the group order; scaling by a conjugation-invariant scalar
  commutes with `transform_tensor`.
-/
import WB.Lemmas.C09Tensor
import Mathlib.Algebra.BigOperators.Group.List.Basic
import Mathlib.Algebra.Field.Basic
import Mathlib.Algebra.Module.Pi
import Mathlib.Tactic.FieldSimp

set_option linter.unusedSectionVars false

namespace WB.C09

variable {F K : Type} [Field F] [LinearOrder F] [IsStrictOrderedRing F] [Field K] {r : Nat}
  (ι : F →+* K) (conj : K →+* K)

theorem foldl_add_eq {α : Type} (f : α → K) (l : List α) (a : K) :
    l.foldl (fun acc g => acc + f g) a = a + (l.map f).sum := by
  induction l generalizing a with
  | nil => simp
  | cons b t ih => simp [ih, add_assoc]

theorem list_sum_apply {α : Type} (l : List α) (f : α → Tensor r K) (idx : Fin r → Fin 3) :
    (l.map f).sum idx = (l.map fun g => f g idx).sum := by
  induction l with
  | nil => rfl
  | cons b t ih => simp [ih]

def divBy (n : Nat) (v : Tensor r K) : Tensor r K := fun idx => v idx / (n : K)

theorem symmetrizeTensor_eq (L : List (PSym F)) (tT tI : Transform r) (x : Tensor r K) :
    symmetrizeTensor ι conj L tT tI x = divBy L.length ((L.map fun g => transformTensor ι conj g tT tI x).sum) := by
  funext idx
  simp only [symmetrizeTensor, divBy, foldl_add_eq, zero_add, list_sum_apply]

theorem rotAxis_smul (A : Mat K) (a : Fin r) (c : K) (x : Tensor r K) :
    rotAxis A a (fun idx => x idx * c) = fun idx => rotAxis A a x idx * c := by
  funext idx; simp only [rotAxis, sum3]; ring

theorem Transform.apply_smul (t : Transform r) (c : K) (hc : conj c = c) (x : Tensor r K) :
    t.apply conj (fun idx => x idx * c) = fun idx => t.apply conj x idx * c := by
  simp only [Transform.apply_eq]
  cases t.neg <;> cases t.conj <;> funext idx <;> simp [mapIf, permute, hc]

theorem transformTensor_smul (g : PSym F) (tT tI : Transform r) (c : K) (hc : conj c = c) (x : Tensor r K) :
    transformTensor ι conj g tT tI (fun idx => x idx * c)
      = fun idx => transformTensor ι conj g tT tI x idx * c := by
  unfold transformTensor rotate
  simp only [rotAxes_comm_of _ (fun (x : Tensor r K) idx => x idx * c) _ fun a _ => rotAxis_smul _ a c]
  cases g.tr <;> cases g.inv <;> simp [Transform.apply_smul conj _ c hc]

theorem transformTensor_divBy (g : PSym F) (tT tI : Transform r) (n : Nat) (x : Tensor r K) :
    transformTensor ι conj g tT tI (divBy n x) = divBy n (transformTensor ι conj g tT tI x) := by
  have e : ∀ v : Tensor r K, divBy n v = fun idx => v idx * (n : K)⁻¹ := fun v => funext fun _ => div_eq_mul_inv _ _
  rw [e, e]
  exact transformTensor_smul ι conj g tT tI _ (by rw [map_inv₀, map_natCast]) x

theorem divBy_nsmul (n : Nat) (hn : (n : K) ≠ 0) (v : Tensor r K) : divBy n (n • v) = v := by
  funext idx
  simp only [divBy, Pi.smul_apply, nsmul_eq_mul]
  field_simp

end WB.C09
