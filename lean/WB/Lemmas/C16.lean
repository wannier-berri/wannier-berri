/-
  Helper lemmas for C16: the guards and the value of `EnergyResult.__add__`, additivity / homogeneity of the tensor
  transformation, stacking of k-blocks, sums of result dictionaries, dictionary look-ups of the saved form.
-/
import WB.Model.C16
import Mathlib.Algebra.Field.Basic
import Mathlib.Tactic.Ring

namespace WB.C16

variable {K : Type} [Field K]

/-! ### multi-index update -/

theorem upd_self (t : Nat → Nat) (a : Nat) : upd t a (t a) = t := by
  funext b; unfold upd; split <;> simp_all

theorem upd_upd (t : Nat → Nat) (a i j : Nat) : upd (upd t a i) a j = upd t a j := by
  funext b; unfold upd; split <;> simp_all

theorem upd_same (t : Nat → Nat) (a j : Nat) : upd t a j a = j := by simp [upd]

/-! ### the guards and the value of `EnergyResult.__add__` -/

def transformsClashEither (a b : ERes K) : Bool := transformsClash a.tTR b.tTR || transformsClash a.tInv b.tInv

def energiesOrSmoothersDiffer (a b : ERes K) : Bool :=
  (List.range a.energies.length).any (fun i =>
    energiesDiffer (a.energies.getD i []) (b.energies.getD i []) || a.smoothers.getD i 0 != b.smoothers.getD i 0)

def ERes.addResult (a b : ERes K) : ERes K :=
  { a with
    data := addData a.data b.data
    saveBin := a.saveBin || b.saveBin
    saveTxt := a.saveTxt || b.saveTxt
    comment := if a.comment.length > b.comment.length then a.comment else b.comment }

theorem ERes.add_eq (a b : ERes K) : a.add b =
    if transformsClashEither a b then .error .assertion
    else if energiesOrSmoothersDiffer a b then .error .runtime else .ok (a.addResult b) := rfl

theorem ERes.add_eq_ok (a b : ERes K) (h1 : transformsClashEither a b = false)
    (h2 : energiesOrSmoothersDiffer a b = false) :
    a.add b = .ok (a.addResult b) := by
  rw [ERes.add_eq, h1, h2]
  rfl

theorem ERes.add_ok (a b r : ERes K) (h : a.add b = .ok r) :
    transformsClashEither a b = false ∧ energiesOrSmoothersDiffer a b = false ∧ r = a.addResult b := by
  rw [ERes.add_eq] at h
  split at h
  · cases h
  · split at h
    · cases h
    · rename_i h1 h2
      cases h
      exact ⟨Bool.eq_false_iff.mpr h1, Bool.eq_false_iff.mpr h2, rfl⟩

/-! ### what the transformations compute -/

/-- `Transform.__call__` acts element by element: a re-indexing, then the optional conjugation and the factor -/
theorem Transform.apply_eq (cj : K → K) (T : Transform) (dim : Nat) :
    ∃ ρ : (Nat → Nat) → Nat → Nat, ∀ (A : Arr K) (t : Nat → Nat),
      T.apply cj dim A t = (if T.conj then cj (A (ρ t)) else A (ρ t)) * (T.factor : K) := by
  obtain ⟨f, c, tp, sw⟩ := T
  rcases tp with _ | p <;> rcases sw with _ | ⟨i, j⟩ <;> cases c <;> exact ⟨_, fun _ _ => rfl⟩

theorem ERes.transform_eq (σ : K → K) (g : Sym K) {a : ERes K} {tr ti : Transform} (h1 : a.tTR = some tr)
    (h2 : a.tInv = some ti) :
    a.transform σ g = .ok { a with data := transformTensor σ g a.shape.length a.rank tr ti a.data } := by
  simp only [ERes.transform, h1, h2]

theorem KRes.transform_ok {σ : K → K} {g : Sym K} {a a' : KRes K} (h : a.transform σ g = .ok a') :
    ∃ tr ti, a.tTR = some tr ∧ a.tInv = some ti ∧
      a' = { a with blocks := a.blocks.map fun b => ⟨b.nk, transformTensor σ g a.dim a.rank tr ti b.arr⟩ } := by
  unfold KRes.transform at h
  split at h
  · cases h
    exact ⟨_, _, ‹_›, ‹_›, rfl⟩
  · cases h

/-! ### linearity over the scalars fixed by the conjugation -/

/-- `F` is additive, and homogeneous for every scalar `c` with `σ c = c` (every real number, for the complex
    conjugation).  Every stage of `transform_tensor` is, hence the whole. -/
structure FixLinear (σ : K → K) (F : Arr K → Arr K) : Prop where
  add : ∀ A B, F (addData A B) = addData (F A) (F B)
  smul : ∀ A c, σ c = c → F (scaleData A c) = scaleData (F A) c

namespace FixLinear
variable {σ : K → K} {F G : Arr K → Arr K}

theorem comp (hF : FixLinear σ F) (hG : FixLinear σ G) : FixLinear σ (fun A => F (G A)) :=
  ⟨fun A B => by rw [hG.add, hF.add], fun A c hc => by rw [hG.smul A c hc, hF.smul _ c hc]⟩

theorem cond (c : Bool) (hF : FixLinear σ F) (hG : FixLinear σ G) : FixLinear σ (fun A => if c then F A else G A) := by
  cases c
  · exact hG
  · exact hF

theorem foldl {ι : Type} {f : ι → Arr K → Arr K} (hf : ∀ i, FixLinear σ (f i)) (l : List ι) :
    FixLinear σ (fun A => l.foldl (fun C i => f i C) A) := by
  induction l with
  | nil => exact ⟨fun _ _ => rfl, fun _ _ _ => rfl⟩
  | cons i l ih => exact ih.comp (hf i)

end FixLinear

theorem Transform.apply_linear (σ : K →+* K) (T : Transform) (dim : Nat) : FixLinear σ (T.apply σ dim) := by
  obtain ⟨ρ, h⟩ := T.apply_eq σ dim
  constructor
  · intro A B
    funext t
    show _ = T.apply σ dim A t + T.apply σ dim B t
    rw [h, h, h, ← add_mul]
    split
    · exact congrArg (· * _) (map_add σ _ _)
    · rfl
  · intro A c hc
    funext t
    show _ = T.apply σ dim A t * c
    rw [h, h, mul_right_comm]
    split
    · exact congrArg (· * _) ((map_mul σ _ _).trans (congrArg _ hc))
    · rfl

theorem rotAxis_linear (σ : K → K) (R : Nat → Nat → K) (a : Nat) : FixLinear σ (rotAxis R a) := by
  constructor
  · intro A B
    funext t
    simp only [rotAxis, sum3, addData]
    ring
  · intro A c _
    funext t
    simp only [rotAxis, sum3, scaleData]
    ring

theorem transformTensor_linear (σ : K →+* K) (g : Sym K) (dim rank : Nat) (tr ti : Transform) :
    FixLinear σ (transformTensor σ g dim rank tr ti) := by
  have hrot : FixLinear σ (rotateAll g.R dim rank) := FixLinear.foldl (fun i => rotAxis_linear σ g.R _) _
  have hTR := FixLinear.cond g.TR ((Transform.apply_linear σ tr dim).comp hrot) hrot
  exact FixLinear.cond g.Inv ((Transform.apply_linear σ ti dim).comp hTR) hTR

/-! ### stacking k-blocks -/

theorem vstack_append (l l' : List (KBlock K)) (t : Nat → Nat) :
    vstack (l ++ l') t
      = if t 0 < nkSum l then vstack l t else vstack l' (upd t 0 (t 0 - nkSum l)) := by
  induction l generalizing t with
  | nil =>
    rw [List.nil_append, nkSum, if_neg (Nat.not_lt_zero _), Nat.sub_zero, upd_self]
  | cons b r ih =>
    simp only [List.cons_append, vstack, nkSum, ih, upd_same, upd_upd]
    by_cases h1 : t 0 < b.nk
    · simp only [if_pos h1, if_pos (Nat.lt_add_right _ h1)]
    · by_cases h2 : t 0 - b.nk < nkSum r
      · simp only [if_neg h1, if_pos h2, if_pos (show t 0 < b.nk + nkSum r by omega)]
      · simp only [if_neg h1, if_neg h2, if_neg (show ¬t 0 < b.nk + nkSum r by omega), Nat.sub_sub]

theorem vstack_map_scale (l : List (KBlock K)) (c : K) (t : Nat → Nat) :
    vstack (l.map (fun b => (⟨b.nk, scaleData b.arr c⟩ : KBlock K))) t = vstack l t * c := by
  induction l generalizing t with
  | nil => simp [vstack]
  | cons b r ih =>
    simp only [List.map_cons, vstack]
    split
    · rfl
    · exact ih _

omit [Field K] in
theorem nkSum_map (l : List (KBlock K)) (f : KBlock K → Arr K) :
    nkSum (l.map (fun b => (⟨b.nk, f b⟩ : KBlock K))) = nkSum l := by
  induction l with
  | nil => rfl
  | cons b r ih => exact congrArg (b.nk + ·) ih

omit [Field K] in
theorem nkSum_append (l l' : List (KBlock K)) : nkSum (l ++ l') = nkSum l + nkSum l' := by
  induction l with
  | nil => exact (Nat.zero_add _).symm
  | cons b r ih => exact (congrArg (b.nk + ·) ih).trans (Nat.add_assoc _ _ _).symm

omit [Field K] in
theorem KRes.add_ok {a b r : KRes K} (h : a.add b = .ok r) :
    a.fit b = true ∧ r = { a with blocks := a.blocks ++ b.blocks } := by
  unfold KRes.add at h
  split at h
  · cases h
    exact ⟨‹_›, rfl⟩
  · cases h

/-! ### dictionaries of results -/

theorem RDict.add_cons_ok {k0 : String} {v : Res K} {rest e r : RDict K}
    (h : RDict.add ((k0, v) :: rest) e = .ok r) :
    match e.lookup k0 with
    | none => RDict.add rest e = .ok r
    | some y => ∃ s tl, v.add (.res y) = .ok s ∧ RDict.add rest e = .ok tl ∧ r = (k0, s) :: tl := by
  rw [RDict.add] at h
  cases he : e.lookup k0 with
  | none => rw [he] at h; exact h
  | some y =>
    rw [he] at h
    dsimp only at h ⊢
    split at h
    · rename_i s tl hv ht
      cases h
      exact ⟨s, tl, hv, ht, rfl⟩
    · cases h
    · cases h

/-! ### the saved dictionary -/

/-- what `from_npz` returns for the saved form of `r`: smoothers void, default save mode -/
def ERes.loaded (r : ERes K) : ERes K :=
  { r with
    smoothers := List.replicate r.energies.length 0
    saveBin := true
    saveTxt := true }

omit [Field K] in
theorem lookup_energies (l : List (List Rat)) (k i : Nat) :
    ((l.zipIdx k).map (fun ei => (Key.energies ei.2, (Value.reals ei.1 : Value K)))).lookup (Key.energies (k + i))
      = (l[i]?).map Value.reals := by
  induction l generalizing k i with
  | nil => rfl
  | cons e r ih =>
    rw [List.zipIdx_cons, List.map_cons, List.lookup_cons]
    cases i with
    | zero => rw [Nat.add_zero, beq_self_eq_true]; rfl
    | succ i =>
      rw [beq_false_of_ne (fun h => by injection h; omega), show k + (i + 1) = k + 1 + i by omega]
      exact ih (k + 1) i

omit [Field K] in
theorem asDict_lookup (r : ERes K) (d : Dict K) (h : r.asDict = .ok d) :
    ∃ tr ti, r.tTR = some tr ∧ r.tInv = some ti ∧ d.lookup .type = none ∧
      d.lookup .E_titles = some (.strs r.titles) ∧ d.lookup .data = some (.arr r.shape r.data) ∧
      d.lookup .rank = some (.nat r.rank) ∧ d.lookup .transformTR = some (.tdict tr) ∧
      d.lookup .transformInv = some (.tdict ti) ∧ d.lookup .comment = some (.str r.comment) ∧
      ∀ n, d.lookup (.energies n) = (r.energies[n]?).map .reals := by
  unfold ERes.asDict at h
  split at h
  · rename_i tr ti htr hti
    cases h
    refine ⟨tr, ti, htr, hti, ?_, rfl, rfl, rfl, rfl, rfl, rfl, fun n => ?_⟩
    · show List.lookup Key.type (r.energies.zipIdx.map _) = none
      rw [List.lookup_eq_none_iff]
      intro p hp
      obtain ⟨ei, _, rfl⟩ := List.mem_map.mp hp
      rfl
    · exact (Nat.zero_add n ▸ lookup_energies r.energies 0 n :)
  · cases h

end WB.C16
