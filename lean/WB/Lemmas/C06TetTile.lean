/-
  C06: the pieces of an edge split tile the parent tetrahedron (barycentric coordinates over ℚ); affine functions on a
  tetrahedron, with the cube faces and cutting planes of the five default tetrahedra.
-/
import WB.Lemmas.C06Tetra
import Mathlib.Data.Rat.Floor
import Mathlib.Tactic.LinearCombination

namespace WB.C06

/-- `p` is the combination of the vertices of `q` with weights `a b c d` (the equations of `inTetClosed`, `inTetOpen`) -/
def IsBary (q : Quad) (p : V3) (a b c d : Rat) : Prop :=
  p.x = a * q.1.x + b * q.2.1.x + c * q.2.2.1.x + d * q.2.2.2.x ∧
  p.y = a * q.1.y + b * q.2.1.y + c * q.2.2.1.y + d * q.2.2.2.y ∧
  p.z = a * q.1.z + b * q.2.1.z + c * q.2.2.1.z + d * q.2.2.2.z

/-- where along the edge does the point sit: piece `i` with `i s ≤ n δ ≤ (i+1) s` -/
theorem choose_piece (s δ : Rat) (n : Nat) (hn : 0 < n) (h0 : 0 ≤ δ) (h1 : δ ≤ s) :
    ∃ i : Nat, i < n ∧ (i : Rat) * s ≤ n * δ ∧ (n : Rat) * δ ≤ ((i : Rat) + 1) * s := by
  have hn' : (0 : Rat) < n := by exact_mod_cast hn
  rcases h1.eq_or_lt with rfl | hlt
  · -- the far end of the edge belongs to the last piece
    refine ⟨n - 1, by omega, ?_, ?_⟩ <;> rw [Nat.cast_sub hn, Nat.cast_one]
    · exact mul_le_mul_of_nonneg_right (sub_le_self _ zero_le_one) h0
    · rw [sub_add_cancel]
  have hs : 0 < s := h0.trans_lt hlt
  have ht0 : 0 ≤ n * δ / s := by positivity
  have hts : n * δ / s * s = n * δ := by field_simp
  refine ⟨⌊n * δ / s⌋₊, (Nat.floor_lt ht0).mpr ((div_lt_iff₀ hs).mpr (mul_lt_mul_of_pos_left hlt hn')), ?_, ?_⟩
  · exact (mul_le_mul_of_nonneg_right (Nat.floor_le ht0) hs.le).trans_eq hts
  · exact hts.symm.trans_le (mul_le_mul_of_nonneg_right (Nat.lt_floor_add_one _).le hs.le)

/-- weight of the far end of the edge, when piece `i` gives its two edge vertices the weights `L`, `M`:
    the point `L cᵢ + M cᵢ₊₁` of the edge is `(L + M - δ) a + δ b` -/
def deltaOf (n i : Nat) (L M : Rat) : Rat := ((i : Rat) * (L + M) + M) / n

theorem deltaOf_nonneg (n i : Nat) {L M : Rat} (hL : 0 ≤ L) (hM : 0 ≤ M) : 0 ≤ deltaOf n i L M := by
  unfold deltaOf; positivity

theorem deltaOf_mul {n : Nat} (hn : 0 < n) (i : Nat) (L M : Rat) : n * deltaOf n i L M = i * (L + M) + M := by
  have hn' : (n : Rat) ≠ 0 := by exact_mod_cast hn.ne'
  unfold deltaOf; field_simp

theorem deltaOf_le {n i : Nat} (hi : i < n) {L M : Rat} (hL : 0 ≤ L) (hM : 0 ≤ M) : deltaOf n i L M ≤ L + M := by
  have hi' : (i : Rat) + 1 ≤ n := by exact_mod_cast hi
  rw [deltaOf, div_le_iff₀ (by linarith [(Nat.cast_nonneg i : (0 : Rat) ≤ i)])]
  linarith [mul_le_mul_of_nonneg_left hi' (add_nonneg hL hM)]

theorem pieceQ_bary (q : Quad) (n i : Nat) (p : V3) (α β L M : Rat) :
    IsBary (pieceQ q n i) p α β L M ↔ IsBary q p α β (L + M - deltaOf n i L M) (deltaOf n i L M) := by
  have key : ∀ u a b : Rat, u + L * (a + (i : Rat) * (1 / n * (b - a))) + M * (a + ((i : Rat) + 1) * (1 / n * (b - a))) =
      u + (L + M - deltaOf n i L M) * a + deltaOf n i L M * b := by
    intro u a b; unfold deltaOf; ring
  simp only [IsBary, pieceQ, V3.add, V3.smul, V3.sub, key]

theorem pieces_cover (q : Quad) (n : Nat) (hn : 0 < n) (p : V3) (h : inTetClosed q p) :
    ∃ i, i < n ∧ inTetClosed (pieceQ q n i) p := by
  obtain ⟨α, β, γ, δ, hα, hβ, hγ, hδ, hs, e⟩ := h
  have hn' : (n : Rat) ≠ 0 := by exact_mod_cast hn.ne'
  obtain ⟨i, hi, l1, l2⟩ := choose_piece (γ + δ) δ n hn hδ (by linarith only [hγ])
  -- the weights `L`, `M` of the piece solve `L + M = γ + δ`, `deltaOf n i L M = δ`
  have hd : deltaOf n i (((i : Rat) + 1) * (γ + δ) - n * δ) (n * δ - i * (γ + δ)) = δ := by
    rw [deltaOf, div_eq_iff hn']; ring
  refine ⟨i, hi, α, β, ((i : Rat) + 1) * (γ + δ) - n * δ, n * δ - i * (γ + δ), hα, hβ, sub_nonneg.mpr l2,
    sub_nonneg.mpr l1, by linarith only [hs], (pieceQ_bary q n i p _ _ _ _).mpr ?_⟩
  rw [hd, show ((i : Rat) + 1) * (γ + δ) - n * δ + (n * δ - i * (γ + δ)) - δ = γ by ring]
  exact e

theorem piece_inside (q : Quad) (n i : Nat) (hi : i < n) (p : V3) (h : inTetClosed (pieceQ q n i) p) :
    inTetClosed q p := by
  obtain ⟨α, β, L, M, hα, hβ, hL, hM, hs, e⟩ := h
  exact ⟨α, β, L + M - deltaOf n i L M, deltaOf n i L M, hα, hβ, sub_nonneg.mpr (deltaOf_le hi hL hM),
    deltaOf_nonneg n i hL hM, by linarith only [hs], (pieceQ_bary q n i p α β L M).mp e⟩

/-- Cramer's rule: a combination of three vectors with non-zero determinant vanishes only for zero coefficients -/
theorem det3_cramer (u v w : V3) (β γ δ : Rat) (hdet : det3 u v w ≠ 0)
    (hx : β * u.x + γ * v.x + δ * w.x = 0) (hy : β * u.y + γ * v.y + δ * w.y = 0)
    (hz : β * u.z + γ * v.z + δ * w.z = 0) : β = 0 ∧ γ = 0 ∧ δ = 0 := by
  have hb : β * det3 u v w = 0 := by
    unfold det3
    linear_combination (v.y * w.z - v.z * w.y) * hx - (v.x * w.z - v.z * w.x) * hy + (v.x * w.y - v.y * w.x) * hz
  have hc : γ * det3 u v w = 0 := by
    unfold det3
    linear_combination (-(u.y * w.z - u.z * w.y)) * hx + (u.x * w.z - u.z * w.x) * hy - (u.x * w.y - u.y * w.x) * hz
  have hd : δ * det3 u v w = 0 := by
    unfold det3
    linear_combination (u.y * v.z - u.z * v.y) * hx - (u.x * v.z - u.z * v.x) * hy + (u.x * v.y - u.y * v.x) * hz
  exact ⟨(mul_eq_zero.mp hb).resolve_right hdet, (mul_eq_zero.mp hc).resolve_right hdet,
    (mul_eq_zero.mp hd).resolve_right hdet⟩

theorem bary_unique (q : Quad) (hdet : detQ q ≠ 0) (p : V3)
    (a1 b1 c1 d1 a2 b2 c2 d2 : Rat) (hs1 : a1 + b1 + c1 + d1 = 1) (hs2 : a2 + b2 + c2 + d2 = 1)
    (h1 : IsBary q p a1 b1 c1 d1) (h2 : IsBary q p a2 b2 c2 d2) : b1 = b2 ∧ c1 = c2 ∧ d1 = d2 := by
  obtain ⟨x1, y1, z1⟩ := h1
  obtain ⟨x2, y2, z2⟩ := h2
  obtain ⟨hb, hc, hd⟩ := det3_cramer (q.2.1.sub q.1) (q.2.2.1.sub q.1) (q.2.2.2.sub q.1) (b1 - b2) (c1 - c2) (d1 - d2) hdet
    (by simp only [V3.sub]; linear_combination (-1 : Rat) * x1 + x2 - q.1.x * (hs1 - hs2))
    (by simp only [V3.sub]; linear_combination (-1 : Rat) * y1 + y2 - q.1.y * (hs1 - hs2))
    (by simp only [V3.sub]; linear_combination (-1 : Rat) * z1 + z2 - q.1.z * (hs1 - hs2))
  exact ⟨sub_eq_zero.mp hb, sub_eq_zero.mp hc, sub_eq_zero.mp hd⟩

theorem pieces_disjoint (q : Quad) (hdet : detQ q ≠ 0)
    (n i j : Nat) (hn : 0 < n) (hij : i < j) (p : V3)
    (h1 : inTetOpen (pieceQ q n i) p) (h2 : inTetOpen (pieceQ q n j) p) : False := by
  obtain ⟨α, β, L, M, _, _, hL, hM, hs, e⟩ := h1
  obtain ⟨α', β', L', M', _, _, hL', hM', hs', e'⟩ := h2
  obtain ⟨_, hc, hd⟩ := bary_unique q hdet p α β _ (deltaOf n i L M) α' β' _ (deltaOf n j L' M')
    (by linarith only [hs]) (by linarith only [hs']) ((pieceQ_bary q n i p α β L M).mp e)
    ((pieceQ_bary q n j p α' β' L' M').mp e')
  -- same total weight on the edge and same position along it
  have hsum : L + M = L' + M' := by linarith only [hc, hd]
  have hpos : (i : Rat) * (L + M) + M = j * (L + M) + M' := by
    rw [← deltaOf_mul hn, hd, deltaOf_mul hn, hsum]
  have hij' : (i : Rat) + 1 ≤ j := by exact_mod_cast hij
  have h3 := mul_le_mul_of_nonneg_right hij' (by linarith only [hL, hM] : 0 ≤ L + M)
  linarith only [hpos, h3, hL, hM']

/-! ### the closed tetrahedron does not depend on the order of its vertices -/

theorem inTetClosed_swap12 {a b c d p : V3} : inTetClosed (a, b, c, d) p ↔ inTetClosed (b, a, c, d) p := by
  constructor <;> rintro ⟨α, β, γ, δ, hα, hβ, hγ, hδ, hs, hx, hy, hz⟩ <;>
    exact ⟨β, α, γ, δ, hβ, hα, hγ, hδ, by rw [← hs]; ring, hx.trans (by ring), hy.trans (by ring), hz.trans (by ring)⟩

theorem inTetClosed_swap23 {a b c d p : V3} : inTetClosed (a, b, c, d) p ↔ inTetClosed (a, c, b, d) p := by
  constructor <;> rintro ⟨α, β, γ, δ, hα, hβ, hγ, hδ, hs, hx, hy, hz⟩ <;>
    exact ⟨α, γ, β, δ, hα, hγ, hβ, hδ, by rw [← hs]; ring, hx.trans (by ring), hy.trans (by ring), hz.trans (by ring)⟩

theorem inTetClosed_swap34 {a b c d p : V3} : inTetClosed (a, b, c, d) p ↔ inTetClosed (a, b, d, c) p := by
  constructor <;> rintro ⟨α, β, γ, δ, hα, hβ, hγ, hδ, hs, hx, hy, hz⟩ <;>
    exact ⟨α, β, δ, γ, hα, hβ, hδ, hγ, by rw [← hs]; ring, hx.trans (by ring), hy.trans (by ring), hz.trans (by ring)⟩

/-- `quadOf t e` lists the parent's vertices in another order -/
theorem quadOf_closed (t : Tet) (e : Nat) (p : V3) :
    inTetClosed (t.v0, t.v1, t.v2, t.v3) p ↔ inTetClosed (quadOf t e) p := by
  rcases e with _ | _ | _ | _ | _ | e
  · exact inTetClosed_swap23.trans (inTetClosed_swap12.trans (inTetClosed_swap34.trans inTetClosed_swap23))
  · exact inTetClosed_swap12.trans (inTetClosed_swap34.trans inTetClosed_swap23)
  · exact inTetClosed_swap12.trans inTetClosed_swap23
  · exact inTetClosed_swap34.trans inTetClosed_swap23
  · exact inTetClosed_swap23
  · exact Iff.rfl

/-! ### affine functions on a tetrahedron; the five default tetrahedra -/

/-- the affine function `n · p + k` for `f = (n, k)` -/
def affV (f : V3 × Rat) (p : V3) : Rat := f.1.x * p.x + f.1.y * p.y + f.1.z * p.z + f.2

def vertsOf (q : Quad) : List V3 := [q.1, q.2.1, q.2.2.1, q.2.2.2]

/-- an affine function of a point of a tetrahedron is the weighted mean of its values at the vertices -/
theorem affV_bary {q : Quad} {p : V3} {a b c d : Rat} (hs : a + b + c + d = 1) (h : IsBary q p a b c d) (f : V3 × Rat) :
    affV f p = a * affV f q.1 + b * affV f q.2.1 + c * affV f q.2.2.1 + d * affV f q.2.2.2 := by
  obtain ⟨hx, hy, hz⟩ := h
  unfold affV
  rw [hx, hy, hz]
  linear_combination (-f.2) * hs

/-- a closed half-space that contains the vertices contains the tetrahedron -/
theorem affV_nonneg {q : Quad} {p : V3} (h : inTetClosed q p) (f : V3 × Rat)
    (hv : ∀ v ∈ vertsOf q, 0 ≤ affV f v) : 0 ≤ affV f p := by
  obtain ⟨a, b, c, d, ha, hb, hc, hd, hs, e⟩ := h
  simp only [vertsOf, List.forall_mem_cons, List.not_mem_nil, false_imp_iff, implies_true, and_true] at hv
  rw [affV_bary hs e f]
  linarith only [mul_nonneg ha hv.1, mul_nonneg hb hv.2.1, mul_nonneg hc hv.2.2.1, mul_nonneg hd hv.2.2.2]

/-- all vertices in the closed half-space `f ≥ 0`, one of them off the boundary plane -/
def onSide (f : V3 × Rat) (q : Quad) : Prop := (∀ v ∈ vertsOf q, 0 ≤ affV f v) ∧ ∃ v ∈ vertsOf q, 0 < affV f v

instance (f : V3 × Rat) (q : Quad) : Decidable (onSide f q) := by unfold onSide; infer_instance

/-- then the interior of the tetrahedron lies in the open half-space -/
theorem affV_pos {q : Quad} {p : V3} (h : inTetOpen q p) (f : V3 × Rat) (hf : onSide f q) : 0 < affV f p := by
  obtain ⟨a, b, c, d, ha, hb, hc, hd, hs, e⟩ := h
  obtain ⟨hv, hv'⟩ := hf
  simp only [vertsOf, List.forall_mem_cons, List.not_mem_nil, false_imp_iff, implies_true, and_true] at hv
  simp only [vertsOf, List.mem_cons, List.not_mem_nil, or_false] at hv'
  rw [affV_bary hs e f]
  have n1 := mul_nonneg ha.le hv.1
  have n2 := mul_nonneg hb.le hv.2.1
  have n3 := mul_nonneg hc.le hv.2.2.1
  have n4 := mul_nonneg hd.le hv.2.2.2
  obtain ⟨v, rfl | rfl | rfl | rfl, h0⟩ := hv'
  · linarith only [mul_pos ha h0, n2, n3, n4]
  · linarith only [mul_pos hb h0, n1, n3, n4]
  · linarith only [mul_pos hc h0, n1, n2, n4]
  · linarith only [mul_pos hd h0, n1, n2, n3]

/-- the six faces of the cell `[-1/2, 1/2]³`, each as the function that is `≥ 0` inside -/
def cubeFaces : List (V3 × Rat) :=
  [(⟨1, 0, 0⟩, 1/2), (⟨-1, 0, 0⟩, 1/2), (⟨0, 1, 0⟩, 1/2), (⟨0, -1, 0⟩, 1/2), (⟨0, 0, 1⟩, 1/2), (⟨0, 0, -1⟩, 1/2)]

theorem fiveVerts_in_cube : ∀ q ∈ fiveVerts, ∀ v ∈ vertsOf q, ∀ f ∈ cubeFaces, 0 ≤ affV f v := by decide +kernel

/-- the plane that cuts corner tetrahedron `i` off the cube (`x + y + z = 1` etc. in cube coordinates), positive on
    the corner's side -/
def cutPlane : Nat → V3 × Rat
  | 0 => (⟨-1, -1, -1⟩, -1/2)
  | 1 => (⟨1, -1, 1⟩, -1/2)
  | 2 => (⟨1, 1, -1⟩, -1/2)
  | _ => (⟨-1, 1, 1⟩, -1/2)

def negP (f : V3 × Rat) : V3 × Rat := (⟨-f.1.x, -f.1.y, -f.1.z⟩, -f.2)

theorem affV_negP (f : V3 × Rat) (p : V3) : affV (negP f) p = -affV f p := by
  simp only [affV, negP]; ring

/-- corner tetrahedron `i` lies on the positive side of its cutting plane, every later one on the other side -/
theorem cutPlane_separates : ∀ i < 4, ∀ j < 5, i < j →
    onSide (cutPlane i) (fiveVerts.getD i default) ∧ onSide (negP (cutPlane i)) (fiveVerts.getD j default) := by
  decide +kernel

end WB.C06
