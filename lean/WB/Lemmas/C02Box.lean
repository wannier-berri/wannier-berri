/-
  C02 — the FFT contract of C02 (`IDFTContract`), unfolding of `placeOnBox`, the slow-FT exponent (`npow`, `zpow_emod`)
  and the box characters.
-/
import WB.Model.C02
import WB.Lemmas.C01Basic

namespace WB.C02
open WB.C01

variable {K : Type} [Field K]

/-- the contract of the FFT library used by the fft branch: `ifftn(B) * prod(N)` at box point `m` is the inverse-DFT
    sum `Σ_c χ_m(c) B(c)` -/
def IDFTContract (N : Mesh) (χ : Vec3 → Vec3 → K) (Finv : (Vec3 → K) → Vec3 → K) : Prop :=
  ∀ (B : Vec3 → K) (m : Vec3), m ∈ gridPoints N → Finv B m = sumK ((gridPoints N).map fun c => χ m c * B c)

theorem placeOnBox_nil (N : Mesh) (c : Vec3) : placeOnBox N ([] : List (Vec3 × K)) c = 0 := rfl

theorem placeOnBox_cons (N : Mesh) (e : Vec3 × K) (es : List (Vec3 × K)) (c : Vec3) :
    placeOnBox N (e :: es) c = (if vmod e.1 N = c then e.2 else 0) + placeOnBox N es c := by
  unfold placeOnBox
  by_cases h : vmod e.1 N = c
  · simp [h, sumK_cons]
  · simp [h]

theorem explicitSum_applyExpdK (χ χd : Vec3 → K) (entries : List (Vec3 × K)) :
    explicitSum χ (applyExpdK χd entries) = explicitSum (fun R => χ R * χd R) entries := by
  unfold explicitSum applyExpdK
  rw [List.map_map]
  apply sumK_map_congr
  intro e _
  simp only [Function.comp]
  ring

theorem npow_eq_pow (z : K) (n : Nat) : npow z n = z ^ n := by
  induction n with
  | zero => simp [npow]
  | succ n ih => rw [npow, ih, pow_succ]

theorem zpow_emod (ζ : K) (N : Nat) (hN : 0 < N) (h : ζ ^ N = 1) (e : Int) :
    ζ ^ (e % (N : Int)) = ζ ^ e := by
  have hz : ζ ≠ 0 := fun h0 => zero_ne_one ((zero_pow hN.ne').symm.trans (h0 ▸ h))
  conv_rhs => rw [← Int.emod_add_mul_ediv e N]
  rw [zpow_add₀ hz, zpow_mul, zpow_natCast, h, one_zpow, mul_one]

theorem zpow_mul_emod (ζ : K) (N : Nat) (hN : 0 < N) (h : ζ ^ N = 1) (k R : Int) :
    ζ ^ (k * (R % (N : Int))) = ζ ^ (k * R) := by
  rw [← zpow_emod ζ N hN h (k * (R % (N : Int))), ← zpow_emod ζ N hN h (k * R), Int.mul_emod, Int.emod_emod,
    ← Int.mul_emod]

/-- the character of box point `m`: `Π_i ζ_i^{m_i R_i}` -/
def boxChar (ζ : K × K × K) (m R : Vec3) : K :=
  ζ.1 ^ (m.1 * R.1) * ζ.2.1 ^ (m.2.1 * R.2.1) * ζ.2.2 ^ (m.2.2 * R.2.2)

theorem boxChar_periodic (ζ : K × K × K) (N : Mesh) (h1 : 0 < N.1) (h2 : 0 < N.2.1) (h3 : 0 < N.2.2)
    (z1 : ζ.1 ^ N.1 = 1) (z2 : ζ.2.1 ^ N.2.1 = 1) (z3 : ζ.2.2 ^ N.2.2 = 1) (m R : Vec3) :
    boxChar ζ m R = boxChar ζ m (vmod R N) := by
  simp only [boxChar, vmod]
  rw [zpow_mul_emod ζ.1 N.1 h1 z1, zpow_mul_emod ζ.2.1 N.2.1 h2 z2, zpow_mul_emod ζ.2.2 N.2.2 h3 z3]

end WB.C02
