/-
  Helper lemmas for C17: one smoothing pass as a weighted sum over its window; passes along different axes commute, so
  `applyAxes` does not depend on the order; window sums of a positive kernel are positive; the memoised `dataSmooth`.
-/
import WB.Model.C17
import Mathlib.Algebra.BigOperators.Field
import Mathlib.Algebra.BigOperators.Ring.Finset
import Mathlib.Algebra.Order.BigOperators.Ring.Finset

namespace WB.C17
open Finset

variable {K : Type} [Field K]

theorem sumTo_eq_sum (f : Nat → K) (n : Nat) : sumTo f n = ∑ t ∈ range n, f t := by
  induction n with
  | zero => simp [sumTo]
  | succ n ih => rw [sumTo, ih, Finset.sum_range_succ]

theorem upd_eq_update (idx : Nat → Nat) (a j : Nat) : upd idx a j = Function.update idx a j := by
  funext b
  simp [upd, Function.update]

/-! ### lists -/

theorem foldl_invariant {α β : Type} (P : β → Prop) (f : β → α → β) (h : ∀ b a, P b → P (f b a)) (l : List α) (b : β)
    (hb : P b) : P (l.foldl f b) := by
  induction l generalizing b with
  | nil => exact hb
  | cons a l ih => exact ih _ (h b a hb)

theorem forall_mem_updAt {α : Type} {P : α → Prop} (l : List α) (i : Nat) (f : α → α) (h : ∀ x ∈ l, P x)
    (hf : ∀ x ∈ l, P (f x)) : ∀ x ∈ updAt l i f, P x := by
  induction l generalizing i with
  | nil => exact fun _ hx => nomatch hx
  | cons a l ih =>
    have ht := fun g : α → α => fun (hg : ∀ x ∈ a :: l, P (g x)) x (hx : x ∈ l) => hg x (List.mem_cons_of_mem _ hx)
    cases i with
    | zero => exact List.forall_mem_cons.2 ⟨hf a List.mem_cons_self, ht id h⟩
    | succ i => exact List.forall_mem_cons.2 ⟨h a List.mem_cons_self, ih i (ht id h) (ht f hf)⟩

/-! ### one pass as a weighted sum -/

theorem wsum_eq (s : Smoother K) (i : Nat) :
    wsum s i = ∑ t ∈ range (wlen s i), s.smt (wstart1 s i + t) := by
  unfold wsum; rw [sumTo_eq_sum]

/-- normalised kernel weight of the `t`-th input in the window of output `i` -/
def wgt (s : Smoother K) (i t : Nat) : K := s.smt (wstart1 s i + t) / wsum s i

theorem smooth1_eq (s : Smoother K) (f : Nat → K) (i : Nat) :
    smooth1 s f i = ∑ t ∈ range (wlen s i), f (wstart s i + t) * wgt s i t := by
  unfold smooth1 wgt
  rw [sumTo_eq_sum, Finset.sum_div]
  exact Finset.sum_congr rfl (fun t _ => mul_div_assoc _ _ _)

theorem smooth1_smul (s : Smoother K) (c : K) (f : Nat → K) (i : Nat) :
    smooth1 s (fun j => c * f j) i = c * smooth1 s f i := by
  simp only [smooth1_eq, mul_assoc, Finset.mul_sum]

theorem smooth1_linear (s : Smoother K) (f g : Nat → K) (c d : K) (i : Nat) :
    smooth1 s (fun j => c * f j + d * g j) i = c * smooth1 s f i + d * smooth1 s g i := by
  simp only [smooth1_eq, add_mul, Finset.sum_add_distrib, mul_assoc, Finset.mul_sum]

theorem sum_wgt (s : Smoother K) (i : Nat) (h : wsum s i ≠ 0) : ∑ t ∈ range (wlen s i), wgt s i t = 1 := by
  unfold wgt
  rw [← Finset.sum_div, ← wsum_eq, div_self h]

theorem smooth1_const (s : Smoother K) (c : K) (i : Nat) (h : wsum s i ≠ 0) :
    smooth1 s (fun _ => c) i = c := by
  rw [smooth1_eq, ← Finset.mul_sum, sum_wgt s i h, mul_one]

/-- the window of output `i` reads inputs `start ≤ j < end ≤ NE` only -/
theorem smooth1_congr (s : Smoother K) (f g : Nat → K) (i : Nat)
    (h : ∀ j, wstart s i ≤ j → j < wend s i → f j = g j) :
    smooth1 s f i = smooth1 s g i := by
  simp only [smooth1_eq]
  refine Finset.sum_congr rfl (fun t ht => ?_)
  rw [h _ (Nat.le_add_right _ _) (Nat.add_lt_of_lt_sub' (Finset.mem_range.mp ht))]

theorem smoothAxis_eq (s : Smoother K) (a : Nat) (A : Arr K) (idx : Nat → Nat) :
    smoothAxis s a A idx =
      ∑ t ∈ range (wlen s (idx a)), A (upd idx a (wstart s (idx a) + t)) * wgt s (idx a) t :=
  smooth1_eq s _ _


theorem smoothAxis_comm (s t : Smoother K) {a b : Nat} (hab : a ≠ b) (A : Arr K) :
    smoothAxis s a (smoothAxis t b A) = smoothAxis t b (smoothAxis s a A) := by
  funext idx
  have e1 : ∀ j, upd idx a j b = idx b := fun j => by rw [upd_eq_update, Function.update_of_ne hab.symm]
  have e2 : ∀ j, upd idx b j a = idx a := fun j => by rw [upd_eq_update, Function.update_of_ne hab]
  simp only [smoothAxis_eq, e1, e2, Finset.sum_mul]
  rw [Finset.sum_comm]
  refine Finset.sum_congr rfl (fun v _ => Finset.sum_congr rfl (fun u _ => ?_))
  rw [upd_eq_update, upd_eq_update, Function.update_comm hab, ← upd_eq_update, ← upd_eq_update, mul_right_comm]

theorem applySm_comm (x y : Option (Smoother K)) {a b : Nat} (hab : a ≠ b) (A : Arr K) :
    applySm x a (applySm y b A) = applySm y b (applySm x a A) := by
  cases x <;> cases y <;> simp only [applySm]
  exact smoothAxis_comm _ _ hab A

theorem applyAxes_eq_foldl (sm : Nat → Option (Smoother K)) (l : List Nat) (A : Arr K) :
    applyAxes sm l A = l.foldl (fun B a => applySm (sm a) a B) A := by
  induction l generalizing A with
  | nil => rfl
  | cons a l ih => exact ih _

theorem applyAxes_perm (sm : Nat → Option (Smoother K)) {l l' : List Nat} (h : l.Perm l') (A : Arr K) :
    applyAxes sm l A = applyAxes sm l' A := by
  rw [applyAxes_eq_foldl, applyAxes_eq_foldl]
  refine h.foldl_eq' (fun x _ y _ B => ?_) A
  by_cases hxy : x = y
  · rw [hxy]
  · exact applySm_comm (sm y) (sm x) (Ne.symm hxy) B

theorem applyAxes_append (sm : Nat → Option (Smoother K)) (l l' : List Nat) (A : Arr K) :
    applyAxes sm (l ++ l') A = applyAxes sm l' (applyAxes sm l A) := by
  rw [applyAxes_eq_foldl, applyAxes_eq_foldl, applyAxes_eq_foldl, List.foldl_append]

theorem applyAxes_induction (sm : Nat → Option (Smoother K)) (P : Arr K → Prop) (l : List Nat)
    (hstep : ∀ a ∈ l, ∀ B, P B → P (applySm (sm a) a B)) (A : Arr K) (h : P A) : P (applyAxes sm l A) := by
  induction l generalizing A with
  | nil => exact h
  | cons a l ih =>
    exact ih (fun b hb => hstep b (List.mem_cons_of_mem _ hb)) _ (hstep a List.mem_cons_self A h)

/-! ### the window of a pass -/

theorem wlen_pos {F : Type} (s : Smoother F) (i : Nat) (hi : i < s.NE) : 0 < wlen s i :=
  Nat.sub_pos_of_lt (lt_min (lt_of_le_of_lt (Nat.sub_le _ _) hi)
    (lt_of_le_of_lt (Nat.sub_le _ _) (Nat.lt_succ_of_le (Nat.le_add_right _ _))))

/-- the window stays inside `smt[0 .. 2·NE1]`: it starts at `NE1 - i` for `i ≤ NE1` (where `start = 0`), else at `0` -/
theorem wstart1_add_le {F : Type} (s : Smoother F) (i t : Nat) (ht : t < wlen s i) : wstart1 s i + t ≤ 2 * s.NE1 := by
  have h1 : t + (i - s.NE1) ≤ i + s.NE1 :=
    Nat.le_of_lt_succ (lt_of_lt_of_le (Nat.add_lt_of_lt_sub ht) (min_le_right _ _))
  unfold wstart1 wstart
  rcases Nat.le_total i s.NE1 with h | h
  · rw [Nat.sub_eq_zero_of_le h, Nat.add_zero] at h1
    rw [Nat.sub_eq_zero_of_le h, Nat.sub_zero, two_mul]
    calc s.NE1 - i + t ≤ s.NE1 - i + (i + s.NE1) := Nat.add_le_add_left h1 _
      _ = s.NE1 + s.NE1 := by rw [← Nat.add_assoc, Nat.sub_add_cancel h]
  · rw [Nat.sub_sub_self h, Nat.sub_self, Nat.zero_add, two_mul]
    have := Nat.add_le_add_right h1 s.NE1
    rw [Nat.add_assoc, Nat.sub_add_cancel h, Nat.add_comm t, Nat.add_assoc] at this
    exact Nat.le_of_add_le_add_left this

theorem wsum_pos {F : Type} [Field F] [LinearOrder F] [IsStrictOrderedRing F]
    (s : Smoother F) (i : Nat) (hi : i < s.NE) (hpos : ∀ k, k ≤ 2 * s.NE1 → 0 < s.smt k) :
    0 < wsum s i := by
  rw [wsum_eq]
  exact Finset.sum_pos (fun t ht => hpos _ (wstart1_add_le s i t (Finset.mem_range.mp ht)))
    (Finset.nonempty_range_iff.2 (Nat.pos_iff_ne_zero.1 (wlen_pos s i hi)))

/-! ### the memoised `dataSmooth` -/

/-- the invariant of the memoised `dataSmooth`: a stored value, if present, is the smoothed CURRENT data -/
def CacheOk (sm : Nat → Option (Smoother K)) (nE : Nat) (s : Cached K) : Prop :=
  ∀ c, s.cache = some c → c = dataSmooth sm nE s.data

/-- the invariant of one live result: a memoised `dataSmooth`, if present, is the smoothing of ITS OWN current data
    with ITS OWN smoothers -/
def ObjOk (o : Obj K) : Prop := ∀ c, o.cache = some c → c = dataSmooth o.sm o.nE o.data

theorem Obj.observe_of_ok {o : Obj K} (h : ObjOk o) : o.observe = dataSmooth o.sm o.nE o.data := by
  unfold Obj.observe
  cases hs : o.cache with
  | none => rfl
  | some c => exact h c hs

theorem observe_of_cacheOk {sm : Nat → Option (Smoother K)} {nE : Nat} {s : Cached K} (h : CacheOk sm nE s) :
    observe sm nE s = dataSmooth sm nE s.data :=
  Obj.observe_of_ok (o := ⟨sm, nE, s.data, s.cache⟩) h


end WB.C17
