/-
  C21 helper lemmas: orthogonal 3×3 matrices (through Mathlib's `Matrix`), the p shell.
-/
import WB.Model.C21
import Mathlib.LinearAlgebra.Matrix.NonsingularInverse
import Mathlib.Tactic.Ring

namespace WB.C21

variable {K : Type} [Field K]

/-- `S Sᵀ = 1` (rows orthonormal) -/
def Orth3 (S : M3 K) : Prop := ∀ a c, sum3 (fun b => S a b * S c b) = if a = c then 1 else 0

theorem Orth3.iff_matrix (S : M3 K) : Orth3 S ↔ Matrix.of S * (Matrix.of S).transpose = 1 := by
  refine ⟨fun h => ?_, fun h a c => ?_⟩
  · ext a c
    have := h a c
    simp only [sum3] at this
    simp only [Matrix.mul_apply, Fin.sum_univ_three, Matrix.transpose_apply, Matrix.of_apply, Matrix.one_apply, this]
  · have := congrFun (congrFun h a) c
    simpa only [sum3, Matrix.mul_apply, Fin.sum_univ_three, Matrix.transpose_apply, Matrix.of_apply,
      Matrix.one_apply] using this

theorem mulM3_eq (A B : M3 K) : Matrix.of (mulM3 A B) = Matrix.of A * Matrix.of B := by
  ext a c; simp only [mulM3, sum3, Matrix.mul_apply, Fin.sum_univ_three, Matrix.of_apply]

theorem one3_eq : Matrix.of (one3 : M3 K) = 1 := by
  ext a c; simp only [one3, Matrix.of_apply, Matrix.one_apply]

theorem mulVec3_eq (S : M3 K) (v : V3 K) : mulVec3 S v = Matrix.mulVec (Matrix.of S) v := by
  funext a; simp only [mulVec3, sum3, Matrix.mulVec, dotProduct, Fin.sum_univ_three, Matrix.of_apply]

theorem dotV_eq (u v : V3 K) : dotV u v = u ⬝ᵥ v := by
  simp only [dotV, dotProduct, Fin.sum_univ_three]

/-- for a square matrix, orthonormal rows ⇒ orthonormal columns -/
theorem Orth3.transpose {S : M3 K} (h : Orth3 S) : Orth3 (transpose3 S) :=
  (Orth3.iff_matrix _).2 (mul_eq_one_comm.1 ((Orth3.iff_matrix S).1 h))

theorem Orth3.mul_transpose {S : M3 K} (h : Orth3 S) : mulM3 S (transpose3 S) = one3 :=
  funext fun a => funext fun c => h a c

theorem Orth3.one : Orth3 (one3 : M3 K) :=
  (Orth3.iff_matrix _).2 (by rw [one3_eq, Matrix.transpose_one, mul_one])

theorem Orth3.mul {S1 S2 : M3 K} (h1 : Orth3 S1) (h2 : Orth3 S2) : Orth3 (mulM3 S2 S1) :=
  (Orth3.iff_matrix _).2 (by
    rw [mulM3_eq, Matrix.transpose_mul, Matrix.mul_assoc, ← Matrix.mul_assoc (Matrix.of S1), (Orth3.iff_matrix S1).1 h1,
      Matrix.one_mul, (Orth3.iff_matrix S2).1 h2])

theorem mulVec3_mul (S2 S1 : M3 K) (v : V3 K) : mulVec3 (mulM3 S2 S1) v = mulVec3 S2 (mulVec3 S1 v) := by
  rw [mulVec3_eq, mulVec3_eq, mulVec3_eq, mulM3_eq, Matrix.mulVec_mulVec]

theorem mulVec3_one (v : V3 K) : mulVec3 one3 v = v := by
  rw [mulVec3_eq, one3_eq, Matrix.one_mulVec]

theorem dotV_mulVec3 {S : M3 K} (hS : Orth3 S) (u v : V3 K) : dotV (mulVec3 S u) (mulVec3 S v) = dotV u v := by
  rw [dotV_eq, dotV_eq, mulVec3_eq, mulVec3_eq, Matrix.dotProduct_mulVec, ← Matrix.mulVec_transpose,
    Matrix.mulVec_mulVec, mul_eq_one_comm.1 ((Orth3.iff_matrix S).1 hS), Matrix.one_mulVec]

/-! ### p shell: `rotP S` is `Sᵀ` with both indices relabelled by the permutation `pIdx` -/

theorem sum3_pIdx (f : Fin 3 → K) : sum3 (fun l => f (pIdx l)) = sum3 f := by
  show f 2 + f 0 + f 1 = f 0 + f 1 + f 2; ring

omit [Field K] in
theorem pIdx_inj (i j : Fin 3) : pIdx i = pIdx j ↔ i = j := by
  revert i j; decide

omit [Field K] in
theorem rotP_transpose (S : M3 K) (j i : Fin 3) : rotP (transpose3 S) j i = rotP S i j := rfl

end WB.C21
