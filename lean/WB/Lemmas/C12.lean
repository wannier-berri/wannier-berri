/-
  C12 helper lemmas: the collection loop of `process()` (step equations, invariant, termination, the two `old` rules on
  nested answers), path / grid reordering.
-/
import WB.Model.C12
import Mathlib.Data.List.Perm.Subperm
import Mathlib.Data.List.Nodup

namespace WB.C12

/-- every answer of `ray.wait` contains the previous one -/
def Nested : List (List Nat) → Prop
  | a :: b :: rest => a ⊆ b ∧ Nested (b :: rest)
  | _ => True

/-- pigeonhole: `n` distinct indices below `n` are all of them -/
theorem ValidReady.mem_of_length_ge {n : Nat} {l : List Nat} (h : ValidReady n l) (hl : n ≤ l.length) :
    ∀ i, i < n → i ∈ l := by
  have hsub : l ⊆ List.range n := fun i hi => List.mem_range.2 (h.2 i hi)
  have hp : l.Perm (List.range n) :=
    (List.subperm_of_subset h.1 hsub).perm_of_length_le (by simpa using hl)
  intro i hi
  exact hp.mem_iff.2 (List.mem_range.2 hi)

theorem mem_diffOf {n : Nat} {old : Nat → Bool} {ready : List Nat} {i : Nat} :
    i ∈ diffOf n old ready ↔ i < n ∧ i ∈ ready ∧ old i = false := by
  unfold diffOf
  simp [List.mem_filter, List.mem_range]

theorem diffOf_nodup (n : Nat) (old : Nat → Bool) (ready : List Nat) : (diffOf n old ready).Nodup :=
  List.Nodup.filter _ List.nodup_range

/-! ### step equations -/

theorem step_done (u : Bool) (s : State) (r : List Nat) (h : s.done = true) : step u s r = s := by
  unfold step; rw [if_pos h]

theorem step_of_full (u : Bool) {s : State} {r : List Nat} (hd : s.done = false) (hf : s.n ≤ r.length) :
    step u s r = { s with added := s.added ++ diffOf s.n s.old r, asked := s.asked ++ [numReturns s],
                          ncalc := r.length, done := true } := by
  unfold step; rw [if_neg (by simp [hd]), if_pos hf]

theorem step_of_short (u : Bool) {s : State} {r : List Nat} (hd : s.done = false) (hf : ¬ s.n ≤ r.length) :
    step u s r = { s with added := s.added ++ diffOf s.n s.old r, asked := s.asked ++ [numReturns s],
                          ncalc := r.length,
                          old := fun i => if u then s.old i || r.contains i else r.contains i } := by
  unfold step; rw [if_neg (by simp [hd]), if_neg hf]

@[simp] theorem step_n (u : Bool) (s : State) (r : List Nat) : (step u s r).n = s.n := by
  cases hd : s.done
  · by_cases hf : s.n ≤ r.length
    · rw [step_of_full u hd hf]
    · rw [step_of_short u hd hf]
  · rw [step_done u s r hd]

theorem foldl_step_n (u : Bool) (sched : List (List Nat)) (s : State) :
    (sched.foldl (step u) s).n = s.n := by
  induction sched generalizing s with
  | nil => rfl
  | cons r rest ih => simp [List.foldl_cons, ih]

@[simp] theorem run_n (u : Bool) (n nstep : Nat) (sched : List (List Nat)) : (run u n nstep sched).n = n := by
  unfold run; rw [foldl_step_n]; rfl

/-! ### the loop invariant -/

/-- the loop invariant of the rule `old := old ∪ ready` (`step true`): nothing is ever added twice; while the loop is running the
    log is exactly the set marked `old`; after `break` the log covers every remote -/
structure Inv (s : State) : Prop where
  nodup   : s.added.Nodup
  bounded : ∀ i ∈ s.added, i < s.n
  running : s.done = false → ∀ i, i < s.n → (i ∈ s.added ↔ s.old i = true)
  finished : s.done = true → ∀ i, i < s.n → i ∈ s.added

theorem inv_init (n nstep : Nat) : Inv (init n nstep) := by
  refine ⟨by simp [init], by simp [init], ?_, by simp [init]⟩
  intro _ i _; simp [init]

theorem inv_step (s : State) (ready : List Nat) (hv : ValidReady s.n ready) (h : Inv s) :
    Inv (step true s ready) := by
  cases hd' : s.done
  case true => rw [step_done _ _ _ hd']; exact h
  case false =>
    have hrun := h.running hd'
    have hnodup : (s.added ++ diffOf s.n s.old ready).Nodup := by
      refine List.Nodup.append h.nodup (diffOf_nodup ..) ?_
      intro i hi hi2
      obtain ⟨hin, _, hold⟩ := mem_diffOf.1 hi2
      have := (hrun i hin).1 hi
      rw [hold] at this; exact Bool.noConfusion this
    have hb : ∀ i ∈ s.added ++ diffOf s.n s.old ready, i < s.n := fun i hi =>
      (List.mem_append.1 hi).elim (h.bounded i) (fun hi => (mem_diffOf.1 hi).1)
    -- what has been added so far is what is marked old or has just arrived
    have hmem : ∀ i, i < s.n → (i ∈ s.added ++ diffOf s.n s.old ready ↔ (s.old i = true ∨ i ∈ ready)) := by
      intro i hi
      rw [List.mem_append, hrun i hi, mem_diffOf]
      cases s.old i <;> simp [hi]
    by_cases hfull : s.n ≤ ready.length
    · rw [step_of_full true hd' hfull]
      exact ⟨hnodup, hb, by simp, fun _ i hi => (hmem i hi).2 (Or.inr (ValidReady.mem_of_length_ge hv hfull i hi))⟩
    · rw [step_of_short true hd' hfull]
      refine ⟨hnodup, hb, fun _ i hi => ?_, by simp [hd']⟩
      rw [hmem i hi]
      simp

theorem inv_foldl (sched : List (List Nat)) (s : State)
    (hv : ∀ r ∈ sched, ValidReady s.n r) (h : Inv s) : Inv (sched.foldl (step true) s) := by
  induction sched generalizing s with
  | nil => exact h
  | cons r rest ih =>
    rw [List.foldl_cons]
    apply ih
    · intro r' hr'; rw [step_n]; exact hv r' (List.mem_cons_of_mem _ hr')
    · exact inv_step s r (hv r (List.mem_cons_self ..)) h

theorem inv_run (n nstep : Nat) (sched : List (List Nat)) (hv : ∀ r ∈ sched, ValidReady n r) :
    Inv (run true n nstep sched) := by
  unfold run
  exact inv_foldl sched (init n nstep) hv (inv_init n nstep)

/-! ### termination -/

theorem foldl_done (u : Bool) (sched : List (List Nat)) (s : State) (h : s.done = true) :
    sched.foldl (step u) s = s := by
  induction sched with
  | nil => rfl
  | cons r rest ih => rw [List.foldl_cons, step_done u s r h, ih]

theorem step_full_done (u : Bool) (s : State) (r : List Nat) (h : s.n ≤ r.length) :
    (step u s r).done = true := by
  cases hd : s.done
  · rw [step_of_full u hd h]
  · rw [step_done u s r hd]; exact hd

theorem foldl_reaches_done (u : Bool) (sched : List (List Nat)) (s : State)
    (h : ∃ r ∈ sched, s.n ≤ r.length) : (sched.foldl (step u) s).done = true := by
  induction sched generalizing s with
  | nil => obtain ⟨r, hr, _⟩ := h; cases hr
  | cons r rest ih =>
    rw [List.foldl_cons]
    obtain ⟨r', hr', hlen⟩ := h
    rcases List.mem_cons.1 hr' with rfl | hr'
    · rw [foldl_done u rest _ (step_full_done u s r' hlen)]
      exact step_full_done u s r' hlen
    · exact ih (step u s r) ⟨r', hr', by rw [step_n]; exact hlen⟩

/-! ### the two rules on nested answers -/

/-- the two rules differ in `old` alone, and not even there when the answer contains everything marked old -/
theorem step_true_eq_false {s : State} {r : List Nat} (h : ∀ i, s.old i = true → i ∈ r) :
    step true s r = step false s r := by
  cases hd : s.done
  case true => rw [step_done _ _ _ hd, step_done _ _ _ hd]
  case false =>
    by_cases hf : s.n ≤ r.length
    · rw [step_of_full _ hd hf, step_of_full _ hd hf]
    · rw [step_of_short _ hd hf, step_of_short _ hd hf]
      congr 1
      funext i
      cases ho : s.old i
      · rfl
      · simpa using h i ho

theorem old_step_false {s : State} {r : List Nat} (h : ∀ i, s.old i = true → i ∈ r) {i : Nat}
    (hi : (step false s r).old i = true) : i ∈ r := by
  cases hd : s.done
  case true => rw [step_done _ _ _ hd] at hi; exact h i hi
  case false =>
    by_cases hf : s.n ≤ r.length
    · rw [step_of_full _ hd hf] at hi; exact h i hi
    · rw [step_of_short _ hd hf] at hi; simpa using hi

/-- invariant of the induction: everything marked old is in the current answer; kept by `step false`
    (`old_step_false`) and by nesting -/
theorem foldl_step_nested (r : List Nat) (rest : List (List Nat)) (s : State) (hn : Nested (r :: rest))
    (h : ∀ i, s.old i = true → i ∈ r) :
    (r :: rest).foldl (step true) s = (r :: rest).foldl (step false) s := by
  rw [List.foldl_cons, List.foldl_cons, step_true_eq_false h]
  induction rest generalizing r s with
  | nil => rfl
  | cons r' rest ih =>
    have h' : ∀ i, (step false s r).old i = true → i ∈ r' := fun i hi => hn.1 (old_step_false h hi)
    rw [List.foldl_cons, List.foldl_cons, step_true_eq_false h']
    exact ih r' _ hn.2 h'

/-! ### path and grid -/

theorem findIdx?_bind_getElem? {α} (p : α → Bool) (l : List α) :
    (l.findIdx? p).bind (fun i => l[i]?) = l.find? p := by
  rw [List.find?_eq_getElem?_findIdx, List.findIdx?_eq_guard_findIdx_lt]
  by_cases h : l.findIdx p < l.length <;> simp [Option.guard, h]

/-- the mapping applied to the arrivals is the first-match lookup: `self_to_path` computes `toPath` -/
theorem applyMapping_mappingOf {κ ν} [BEq κ] (arr : List (κ × ν)) (path : List κ) :
    applyMapping arr (mappingOf arr path) = toPath arr path := by
  unfold applyMapping mappingOf toPath
  rw [List.map_map]
  apply List.map_congr_left
  intro k _
  rw [← findIdx?_bind_getElem?, Option.map_bind]
  rfl

theorem onGrid_perm {κ ν} [BEq κ] {arr arr' : List (κ × ν)} (h : arr.Perm arr') (g : κ) :
    (onGrid arr g).Perm (onGrid arr' g) := by
  unfold onGrid
  exact (h.filter _).map _

theorem arrivals_perm {α} (batch : Nat → List α) {l l' : List Nat} (h : l.Perm l') :
    (arrivals batch l).Perm (arrivals batch l') := by
  unfold arrivals
  exact h.flatMap_right batch

end WB.C12
