/-
  C24 — the update loop: what `rotate_to_projections` and the tall polar factor establish (used in `Props/C24.lean` for both
  branches of `update` and for `__init__`).  Kernel contracts (`Contracts`), validity of the static data (`Valid`), the
  three invariants (`Inv3`).
-/
import WB.Lemmas.C24Core
import Mathlib.Algebra.Star.BigOperators

namespace WB.C24
open Matrix

section
variable {K : Type} [Field K] [StarRing K]

/-- a model matrix (function on `Nat × Nat`) restricted to its `nb × nw` block.  `Emat fz fr Uf nb nw` is `toMat nb nw (embed fz fr Uf)`
    and `Ufmat Uf` is `toMat _ _ Uf` by definition: a hypothesis stated with one is used for the other without a rewrite -/
def toMat (nb nw : Nat) (f : Nat → Nat → K) : Matrix (Fin nb) (Fin nw) K := Matrix.of fun i j => f i.val j.val

def HermFn (n : Nat) (Z : Nat → Nat → K) : Prop := ∀ i j, i < n → j < n → star (Z i j) = Z j i

/-- admissible mixing data -/
def MixOK (n : Nat) : Option (K × K × (Nat → Nat → K)) → Prop
  | some (m, om, Zold) => star m = m ∧ star om = om ∧ HermFn n Zold
  | none => True

/-- what the code relies on for the static data of a k-point; a hypothesis of T5.  The first five fields hold for index
    lists read off the masks (`idx_nodup`, `mem_idx`, `free_disjoint_frozen`, as in `wannierise_gauge_valid`); the
    others are validity of the input: `#frozen ≤ num_wann ≤ #selected`, real b-vector weights -/
structure Valid (d : KData K) : Prop where
  fz_nodup : d.fz.Nodup
  fr_nodup : d.fr.Nodup
  disj : ∀ b ∈ d.fz, b ∉ d.fr
  fz_lt : ∀ b ∈ d.fz, b < d.nb
  fr_lt : ∀ b ∈ d.fr, b < d.nb
  nfz_le : d.fz.length ≤ d.nw
  nw_le : d.nw - d.fz.length ≤ d.fr.length
  wb_real : ∀ ib, star (d.wb ib) = d.wb ib

/-- the named contracts of the numerical kernels.
    * `eig_orthonormal`  — `numpy.linalg.eigh` returns orthonormal eigenvectors of a Hermitian matrix, so any `nvec ≤ n`
      of its columns form an isometry (`get_max_eig`);
    * `polarSq_unitary`  — `orthogonalize` of a SQUARE matrix is `U @ VT` with both SVD factors unitary, hence unitary
      for EVERY argument, rank-deficient ones included (this is what `rotate_to_projections` and the localisation
      step rely on: they only ever orthogonalise square `num_wann × num_wann` matrices before multiplying by `E`);
    * `polarTall_fullrank` — `orthogonalize` of an `nb × nw` matrix of FULL COLUMN RANK (it has a left inverse) is an
      isometry `Q` with `Q·H = A`, `H` invertible (same column space).  Nothing is assumed for rank-deficient tall
      arguments: there the SVD completes the isometry with arbitrary vectors (see
      `rank_deficient_tall_polar_can_lose_frozen_state` in `Props/C24.lean`).
    `numpy.linalg.inv` needs no contract: its result is orthogonalised as a square matrix. -/
structure Contracts (ker : Kernels K) : Prop where
  eig_orthonormal : ∀ (n nvec : Nat) (Z : Nat → Nat → K), HermFn n Z → nvec ≤ n →
      (toMat n nvec (ker.eig n nvec Z))ᴴ * toMat n nvec (ker.eig n nvec Z) = 1
  polarSq_unitary : ∀ (n : Nat) (A : Nat → Nat → K),
      (toMat n n (ker.polarSq n A))ᴴ * toMat n n (ker.polarSq n A) = 1
  polarTall_fullrank : ∀ (nb nw : Nat) (A : Nat → Nat → K),
      (∃ L : Matrix (Fin nw) (Fin nb) K, L * toMat nb nw A = 1) →
      (toMat nb nw (ker.polarTall nb nw A))ᴴ * toMat nb nw (ker.polarTall nb nw A) = 1 ∧
      ∃ H H' : Matrix (Fin nw) (Fin nw) K,
        toMat nb nw (ker.polarTall nb nw A) * H = toMat nb nw A ∧ H * H' = 1

/-- the three invariants of the gauge at one k-point, for a matrix -/
structure Inv3M (d : KData K) (U : Matrix (Fin d.nb) (Fin d.nw) K) : Prop where
  iso : Uᴴ * U = 1
  span : ∀ f : Fin d.nb, f.val ∈ d.fz → (U * Uᴴ) *ᵥ Pi.single f (1 : K) = Pi.single f 1
  zero : ∀ b : Fin d.nb, b.val ∉ d.fz → b.val ∉ d.fr → ∀ w : Fin d.nw, U b w = 0

def Inv3 (d : KData K) (U : Nat → Nat → K) : Prop := Inv3M d (toMat d.nb d.nw U)

/-! ### bridging the model's sums to matrices -/

omit [StarRing K] in
theorem toMat_matMulFn (nb n nw : Nat) (A B : Nat → Nat → K) :
    toMat nb nw (matMulFn n A B) = toMat nb n A * toMat n nw B := by
  ext i j
  simp only [toMat, Matrix.of_apply, matMulFn, sumTo_eq, Matrix.mul_apply]
  rw [Fin.sum_univ_eq_sum_range (fun l => A i.val l * B l j.val) n]

omit [Field K] [StarRing K] in
theorem selOf_iff (d : KData K) (b : Nat) : selOf d b = true ↔ (b ∈ d.fz ∨ b ∈ d.fr) := by
  unfold selOf
  simp

omit [StarRing K] in
theorem toMat_finalU (d : KData K) (Uf W : Nat → Nat → K) :
    toMat d.nb d.nw (finalU (selOf d) d.nw (embed d.fz d.fr Uf) W)
      = Emat d.fz d.fr Uf d.nb d.nw * toMat d.nw d.nw W :=
  Matrix.ext fun b w => Core.finalU_apply d.fz d.fr Uf d.nb d.nw (selOf d) (selOf_iff d) W b w

theorem star_sumTo (n : Nat) (f : Nat → K) : star (sumTo n f) = sumTo n (fun j => star (f j)) := by
  rw [sumTo_eq, sumTo_eq, star_sum]

/-! ### Hermiticity of the matrices handed to `eigh`: each is a Gram form `Σ_j a i j · conj (a i' j)`, or a sum of
    such forms with real weights -/

theorem star_gram (n : Nat) (a : Nat → Nat → K) (i i' : Nat) :
    star (sumTo n fun j => a i j * star (a i' j)) = sumTo n fun j => a i' j * star (a i j) := by
  rw [star_sumTo]
  congr 1; funext j
  rw [star_mul', star_star, mul_comm]

theorem star_wgram (nnb : Nat) (wb : Nat → K) (hwb : ∀ ib, star (wb ib) = wb ib) (n : Nat → Nat)
    (a : Nat → Nat → Nat → K) (i i' : Nat) :
    star (sumTo nnb fun ib => wb ib * sumTo (n ib) fun j => a ib i j * star (a ib i' j))
      = sumTo nnb fun ib => wb ib * sumTo (n ib) fun j => a ib i' j * star (a ib i j) := by
  rw [star_sumTo]
  congr 1; funext ib
  rw [star_mul', hwb, star_gram]

theorem zFree_herm (d : KData K) (hwb : ∀ ib, star (d.wb ib) = d.wb ib) (Unb : Nat → Nat → Nat → K) (i i' : Nat) :
    star (zFree star d Unb i i') = zFree star d Unb i' i :=
  star_wgram d.nnb d.wb hwb (fun _ => d.nw) (fun ib i w => mlocFree d Unb ib i w) i i'

theorem zFrozen_herm (d : KData K) (hwb : ∀ ib, star (d.wb ib) = d.wb ib) (i i' : Nat) :
    star (zFrozen star d i i') = zFrozen star d i' i :=
  star_wgram d.nnb d.wb hwb (fun ib => (d.fzNb ib).length)
    (fun ib i j => d.M ib (d.fr.getD i 0) ((d.fzNb ib).getD j 0)) i i'

theorem zMatrix_herm (d : KData K) (hwb : ∀ ib, star (d.wb ib) = d.wb ib)
    (mixing : Option (K × K × (Nat → Nat → K))) (hmix : MixOK d.fr.length mixing) (Unb : Nat → Nat → Nat → K) :
    HermFn d.fr.length (zMatrix star d mixing Unb) := by
  intro i j hi hj
  unfold zMatrix
  cases mixing with
  | none => simp only [star_add, zFree_herm d hwb, zFrozen_herm d hwb]
  | some t =>
    obtain ⟨m, om, Zold⟩ := t
    obtain ⟨h1, h2, h3⟩ := hmix
    simp only [star_add, star_mul', zFree_herm d hwb, zFrozen_herm d hwb, h1, h2, h3 i j hi hj]

theorem amn2_herm (d : KData K) : HermFn d.fr.length (amn2 star d) :=
  fun i j _ _ => star_gram d.nw (fun i w => d.amn (d.fr.getD i 0) w) i j

/-! ### the invariants of the polar factor of `E·W`, in the dimensions of the data -/

theorem inv3_polar (d : KData K) (hd : Valid d) {Uf : Nat → Nat → K}
    {W W' : Matrix (Fin d.nw) (Fin d.nw) K} (H H' : Matrix (Fin d.nw) (Fin d.nw) K) {Q : Matrix (Fin d.nb) (Fin d.nw) K}
    (hQ : Qᴴ * Q = 1) (hpolar : Q * H = Emat d.fz d.fr Uf d.nb d.nw * W) (hH : H * H' = 1) (hW : W * W' = 1) :
    Inv3M d Q := by
  obtain ⟨h1, h2⟩ :=
    Core.orthogonalised_keeps_constraints d.fz d.fr Uf d.nb d.nw hd.fz_lt W W' H H' Q hQ hpolar hH hW
  refine ⟨hQ, fun f hf => ?_, h2⟩
  obtain ⟨j, hj, hjf⟩ := List.getElem_of_mem hf
  obtain rfl : ⟨d.fz[j], hd.fz_lt _ (List.getElem_mem hj)⟩ = f := Fin.ext hjf
  exact h1 j hj (lt_of_lt_of_le hj hd.nfz_le)

/-! ### `rotate_to_projections` and the localisation branch of `update` -/

theorem rotateToProj_inv3 (ker : Kernels K) (hker : Contracts ker) (d : KData K) (hd : Valid d) (Z : Nat → Nat → K)
    (hZ : HermFn d.fr.length Z) :
    Inv3 d (rotateToProj ker star d (ker.eig d.fr.length (d.nw - d.fz.length) Z)) := by
  have hE := Emat_isometry d.fz d.fr _ d.nb d.nw hd.fz_nodup hd.fr_nodup hd.disj hd.fz_lt hd.fr_lt
    (hker.eig_orthonormal _ _ Z hZ hd.nw_le)
  have hW := hker.polarSq_unitary d.nw (projLoc star d (embed d.fz d.fr (ker.eig d.fr.length (d.nw - d.fz.length) Z)))
  unfold Inv3 rotateToProj
  rw [toMat_finalU]
  -- `E·W` is its own polar factor
  exact inv3_polar d hd 1 1 (Core.isometry _ _ hE hW) (Matrix.mul_one _) (Matrix.mul_one _)
    (mul_eq_one_comm.1 hW)

/-- the localisation branch: `E·W` is an isometry, in particular of full column rank, so the tall polar contract applies -/
theorem polarTall_inv3 (ker : Kernels K) (hker : Contracts ker) (d : KData K) (hd : Valid d) (Z Wf : Nat → Nat → K)
    (hZ : HermFn d.fr.length Z) (hW : (toMat d.nw d.nw Wf)ᴴ * toMat d.nw d.nw Wf = 1) :
    Inv3 d (ker.polarTall d.nb d.nw
      (matMulFn d.nw (embed d.fz d.fr (ker.eig d.fr.length (d.nw - d.fz.length) Z)) Wf)) := by
  have hE := Emat_isometry d.fz d.fr _ d.nb d.nw hd.fz_nodup hd.fr_nodup hd.disj hd.fz_lt hd.fr_lt
    (hker.eig_orthonormal _ _ Z hZ hd.nw_le)
  have hA := toMat_matMulFn d.nb d.nw d.nw (embed d.fz d.fr (ker.eig d.fr.length (d.nw - d.fz.length) Z)) Wf
  obtain ⟨hQ, H, H', hQH, hHH⟩ := hker.polarTall_fullrank d.nb d.nw _
    ⟨_, hA ▸ Core.isometry _ _ hE hW⟩
  exact inv3_polar d hd H H' hQ (hQH.trans hA) hHH (mul_eq_one_comm.1 hW)

end

end WB.C24
