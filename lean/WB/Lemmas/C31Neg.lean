/-
  C31 helper lemmas: the shells of `find_shells` are closed under b → −b (as lists: permutations), because the search
  box is symmetric, the lengths of b and −b are equal and a run of the sorted lengths contains every vector of a
  given length.  Also: the run indices computed in one pass (`blockIdxAll`) are those of `blockIdx`.
-/
import WB.Model.C31
import Mathlib.Algebra.Order.Field.Rat
import Mathlib.Data.List.Nodup
import Mathlib.Data.List.ProdSigma
import Mathlib.Data.List.GetD
import Mathlib.Data.List.Perm.Basic
import Mathlib.Data.List.Perm.Subperm
import Mathlib.Tactic.Ring

namespace WB.C31

/-! ### general facts -/

theorem perm_map_of_closed {α : Type} (f : α → α) (hf : Function.Injective f) (l : List α) (hn : l.Nodup)
    (hcl : ∀ x ∈ l, f x ∈ l) : (l.map f).Perm l := by
  have h1 : (l.map f).Nodup := hn.map hf
  have h2 : l.map f ⊆ l := by
    intro y hy
    obtain ⟨x, hx, rfl⟩ := List.mem_map.1 hy
    exact hcl x hx
  exact (h1.subperm h2).perm_of_length_le (by simp)

theorem filter_zip_map {β : Type} (l : List Nat) (g : Nat → Nat) (f : Nat → β) (k : Nat) :
    ((l.zip (l.map g)).filter (fun x => x.2 == k)).map (fun x => f x.1) = (l.filter (fun p => g p == k)).map f := by
  induction l with
  | nil => simp
  | cons a l ih =>
    simp only [List.map_cons, List.zip_cons_cons, List.filter_cons]
    by_cases h : g a == k
    · simp only [h, ↓reduceIte, List.map_cons, ih]
    · simp only [h, Bool.false_eq_true, ↓reduceIte, ih]

/-! ### the search box -/

theorem mem_symRange (n : Nat) (x : Int) : x ∈ symRange n ↔ -(n : Int) ≤ x ∧ x ≤ n := by
  unfold symRange
  simp only [List.mem_map, List.mem_range]
  constructor
  · rintro ⟨t, ht, rfl⟩; omega
  · rintro ⟨h1, h2⟩; exact ⟨(x + n).toNat, by omega, by omega⟩

theorem symRange_nodup (n : Nat) : (symRange n).Nodup := by
  unfold symRange
  apply List.Nodup.map _ List.nodup_range
  intro a b h; simp only at h; omega

theorem boxList_eq_product (n : Nat) :
    boxList n = symRange n ×ˢ (symRange n ×ˢ symRange n) := by
  simp only [boxList, SProd.sprod, List.product, List.map_flatMap, List.map_map]; rfl

theorem mem_boxList (n : Nat) (m : I3) : m ∈ boxList n ↔ m.1 ∈ symRange n ∧ m.2.1 ∈ symRange n ∧ m.2.2 ∈ symRange n := by
  obtain ⟨a, b, c⟩ := m
  rw [boxList_eq_product, List.mem_product, List.mem_product]

theorem boxList_nodup (n : Nat) : (boxList n).Nodup := by
  rw [boxList_eq_product]
  exact (symRange_nodup n).product ((symRange_nodup n).product (symRange_nodup n))

theorem negI_mem_boxList (n : Nat) (m : I3) (h : m ∈ boxList n) : negI m ∈ boxList n := by
  rw [mem_boxList] at h ⊢
  simp only [negI, mem_symRange] at h ⊢
  omega

theorem negI_injective : Function.Injective negI := by
  rintro ⟨a, b, c⟩ ⟨a', b', c'⟩ h
  simp only [negI, Prod.mk.injEq, neg_inj] at h
  obtain ⟨rfl, rfl, rfl⟩ := h; rfl

theorem cartI_negI (basis : Fin 3 → Fin 3 → Rat) (m : I3) (c : Fin 3) : cartI basis (negI m) c = -cartI basis m c := by
  simp only [cartI, negI, Int.cast_neg]; ring

/-! ### runs of the sorted lengths -/

theorem blockIdx_succ (E : Nat → Rat) (th : Rat) (p : Nat) :
    blockIdx E th (p + 1) = blockIdx E th p + (if E (p + 1) - E p > th then 1 else 0) := by
  unfold blockIdx
  rw [List.range_succ, List.filter_append, List.length_append]
  congr 1
  by_cases h : E (p + 1) - E p > th
  · simp [h]
  · simp [h]

/-- positions with equal length (in a sorted list, threshold ≥ 0) lie in the same run -/
theorem blockIdx_add_eq (E : Nat → Rat) (th : Rat) (hth : 0 ≤ th) (N : Nat)
    (hsorted : ∀ i j, i ≤ j → j < N → E i ≤ E j) :
    ∀ (d p : Nat), p + d < N → E p = E (p + d) → blockIdx E th (p + d) = blockIdx E th p
  | 0, p, _, _ => rfl
  | d + 1, p, hN, hE => by
    have h1 : E p ≤ E (p + d) := hsorted p (p + d) (by omega) (by omega)
    have h2 : E (p + d) ≤ E (p + d + 1) := hsorted (p + d) (p + d + 1) (by omega) (by omega)
    have h3 : E (p + d) = E p := le_antisymm (by rw [hE]; exact h2) h1
    have ih := blockIdx_add_eq E th hth N hsorted d p (by omega) h3.symm
    rw [show p + (d + 1) = (p + d) + 1 from by omega, blockIdx_succ, ih]
    have : ¬ (E (p + d + 1) - E (p + d) > th) := by
      rw [show p + (d + 1) = p + d + 1 from by omega] at hE
      rw [← hE, h3]; simpa using hth
    rw [if_neg this, Nat.add_zero]

theorem blockIdx_eq_of_key_eq (E : Nat → Rat) (th : Rat) (hth : 0 ≤ th) (N : Nat)
    (hsorted : ∀ i j, i ≤ j → j < N → E i ≤ E j) (p q : Nat) (hp : p < N) (hq : q < N) (hE : E p = E q) :
    blockIdx E th p = blockIdx E th q := by
  rcases Nat.le_total p q with h | h
  · obtain ⟨d, rfl⟩ := Nat.exists_eq_add_of_le h
    exact (blockIdx_add_eq E th hth N hsorted d p hq hE).symm
  · obtain ⟨d, rfl⟩ := Nat.exists_eq_add_of_le h
    exact blockIdx_add_eq E th hth N hsorted d q hp hE.symm

/-! ### array of keys, one-pass run indices -/

theorem keysOf_getD (nrm : V3 Rat → Rat) (basis : Fin 3 → Fin 3 → Rat) (sb : List I3) (i : Nat) (hi : i < sb.length) :
    (keysOf nrm basis sb).getD i 0 = nrm (cartI basis (sb.getD i (0, 0, 0))) := by
  unfold keysOf
  rw [List.getD_eq_getElem _ _ hi]
  simp [Array.getD, hi]

theorem blockIdx_zero (E : Nat → Rat) (th : Rat) : blockIdx E th 0 = 0 := by
  simp [blockIdx]

theorem blockIdxAll_aux (E : Nat → Rat) (th : Rat) : ∀ N : Nat,
    (List.range N).foldl (fun (acc : List Nat × Nat) p =>
        let c := if decide (0 < p) && decide (E p - E (p - 1) > th) then acc.2 + 1 else acc.2
        (c :: acc.1, c)) ([], 0)
      = (((List.range N).map (blockIdx E th)).reverse, if N = 0 then 0 else blockIdx E th (N - 1))
  | 0 => by simp
  | N + 1 => by
    rw [List.range_succ, List.foldl_append, blockIdxAll_aux E th N]
    simp only [List.foldl_cons, List.foldl_nil, List.map_append, List.map_cons, List.map_nil, List.reverse_append,
      List.reverse_cons, List.reverse_nil, List.nil_append, List.cons_append, Nat.add_sub_cancel,
      Nat.add_one_ne_zero, ↓reduceIte]
    rcases N with _ | N
    · simp [blockIdx_zero]
    · have hs := blockIdx_succ E th N
      simp only [Nat.add_one_ne_zero, ↓reduceIte, Nat.add_sub_cancel, Nat.zero_lt_succ, decide_true, Bool.true_and,
        decide_eq_true_eq]
      by_cases hc : E (N + 1) - E N > th
      · simp [hc, hs]
      · simp [hc, hs]

theorem blockIdxAll_eq (E : Nat → Rat) (th : Rat) (N : Nat) :
    blockIdxAll E th N = (List.range N).map (blockIdx E th) := by
  unfold blockIdxAll
  rw [blockIdxAll_aux]
  simp

/-! ### every shell is closed under negation -/

section shells
variable (nrm : V3 Rat → Rat) (hnrm : ∀ v : V3 Rat, nrm (fun c => -v c) = nrm v)
variable (basis : Fin 3 → Fin 3 → Rat) (n : Nat) (th : Rat) (hth : 0 ≤ th)

theorem sortedBox_perm : (sortedBox nrm basis n).Perm (boxList n) := List.mergeSort_perm _ _

theorem sortedBox_nodup : (sortedBox nrm basis n).Nodup := (sortedBox_perm nrm basis n).nodup_iff.2 (boxList_nodup n)

theorem sortedBox_sorted (i j : Nat) (hij : i ≤ j) (hj : j < (sortedBox nrm basis n).length) :
    nrm (cartI basis ((sortedBox nrm basis n).getD i (0, 0, 0))) ≤ nrm (cartI basis ((sortedBox nrm basis n).getD j (0, 0, 0))) := by
  have hp : (sortedBox nrm basis n).Pairwise
      (fun a c => decide (nrm (cartI basis a) ≤ nrm (cartI basis c)) = true) := by
    unfold sortedBox
    apply List.pairwise_mergeSort
    · intro a b c hab hbc
      simp only [decide_eq_true_eq] at hab hbc ⊢
      exact le_trans hab hbc
    · intro a b
      simp only [Bool.or_eq_true, decide_eq_true_eq]
      exact le_total _ _
  rcases Nat.lt_or_eq_of_le hij with h | h
  · have := List.pairwise_iff_getElem.1 hp i j (by omega) hj h
    simp only [decide_eq_true_eq] at this
    rw [List.getD_eq_getElem _ _ (by omega : i < _), List.getD_eq_getElem _ _ hj]
    exact this
  · subst h; exact le_refl _

include hnrm hth in
theorem shellVecs_neg_perm (k : Nat) :
    ((shellVecs nrm basis n th k).map negI).Perm (shellVecs nrm basis n th k) := by
  apply perm_map_of_closed negI negI_injective
  · -- Nodup
    unfold shellVecs
    apply List.Nodup.map_on _ (List.nodup_range.filter _)
    intro p hp q hq hpq
    have hp' : p < (sortedBox nrm basis n).length := by simpa using (List.mem_filter.1 hp).1
    have hq' : q < (sortedBox nrm basis n).length := by simpa using (List.mem_filter.1 hq).1
    rw [List.getD_eq_getElem _ _ hp', List.getD_eq_getElem _ _ hq'] at hpq
    exact (sortedBox_nodup nrm basis n).getElem_inj_iff.1 hpq
  · -- closed under negation
    intro m hm
    unfold shellVecs at hm ⊢
    simp only [List.mem_map, List.mem_filter, List.mem_range, beq_iff_eq] at hm ⊢
    obtain ⟨p, ⟨hp, hk⟩, rfl⟩ := hm
    set sb := sortedBox nrm basis n with hsb
    have hmem : sb.getD p (0, 0, 0) ∈ sb := by
      rw [List.getD_eq_getElem _ _ hp]; exact List.getElem_mem hp
    have hneg : negI (sb.getD p (0, 0, 0)) ∈ sb :=
      (sortedBox_perm nrm basis n).mem_iff.2
        (negI_mem_boxList n _ ((sortedBox_perm nrm basis n).mem_iff.1 hmem))
    obtain ⟨q, hq, hqe⟩ := List.getElem_of_mem hneg
    refine ⟨q, ⟨hq, ?_⟩, by rw [List.getD_eq_getElem _ _ hq]; exact hqe⟩
    rw [← hk]
    have hE : ∀ i, i < sb.length → (keysOf nrm basis sb).getD i 0 = nrm (cartI basis (sb.getD i (0, 0, 0))) :=
      fun i hi => keysOf_getD nrm basis sb i hi
    apply blockIdx_eq_of_key_eq _ th hth sb.length _ q p hq hp
    · show (keysOf nrm basis sb).getD q 0 = (keysOf nrm basis sb).getD p 0
      rw [hE q hq, hE p hp, List.getD_eq_getElem _ _ hq, hqe]
      have : cartI basis (negI (sb.getD p (0, 0, 0))) = fun c => -cartI basis (sb.getD p (0, 0, 0)) c := by
        funext c; exact cartI_negI basis _ c
      rw [this, hnrm]
    · intro i j hij hj
      show (keysOf nrm basis sb).getD i 0 ≤ (keysOf nrm basis sb).getD j 0
      rw [hE i (by omega), hE j hj]
      exact sortedBox_sorted nrm basis n i j hij hj

end shells

end WB.C31
