/-
  C14 — sorting and the 1e-12 separation pass of `weights_tetra`.
-/
import WB.Lemmas.C14Spec
import Mathlib.Data.List.Sort

namespace WB.C14
set_option linter.unusedSectionVars false
variable {K : Type} [Field K] [LinearOrder K] [IsStrictOrderedRing K]

theorem sort4_perm (a b c d : K) : (sort4 a b c d).Perm [a, b, c, d] := by
  unfold sort4; exact List.mergeSort_perm _ _

theorem sort4_sorted (a b c d : K) : (sort4 a b c d).Pairwise (· ≤ ·) := by
  unfold sort4; exact List.pairwise_mergeSort' (· ≤ ·) _

theorem sort4_length (a b c d : K) : (sort4 a b c d).length = 4 :=
  (sort4_perm a b c d).length_eq

/-- T5 core: sorting forgets the order of the corners -/
theorem sort4_congr {a b c d a' b' c' d' : K} (hp : [a, b, c, d].Perm [a', b', c', d']) :
    sort4 a b c d = sort4 a' b' c' d' :=
  (((sort4_perm a b c d).trans hp).trans (sort4_perm a' b' c' d').symm).eq_of_pairwise'
    (sort4_sorted a b c d) (sort4_sorted a' b' c' d')

theorem sort4_of_sorted {a b c d : K} (h1 : a ≤ b) (h2 : b ≤ c) (h3 : c ≤ d) : sort4 a b c d = [a, b, c, d] := by
  unfold sort4
  apply List.mergeSort_eq_self (· ≤ ·)
  simp only [List.pairwise_cons, List.mem_cons, List.not_mem_nil, or_false, forall_eq_or_imp, forall_eq,
    List.Pairwise.nil, and_true, IsEmpty.forall_iff, implies_true]
  exact ⟨⟨h1, h1.trans h2, h1.trans (h2.trans h3)⟩, ⟨h2, h2.trans h3⟩, h3⟩

/-! ### the separation pass: three times the same step -/

/-- one step of the loop: `if e[i+1] - e[i] < diff_min: e[i+1] = e[i] + diff_min` -/
def bump (dmin a b : K) : K := if b - a < dmin then a + dmin else b

theorem sep4_eq_bump (dmin e1 e2 e3 e4 : K) : sep4 dmin e1 e2 e3 e4 =
    (e1, bump dmin e1 e2, bump dmin (bump dmin e1 e2) e3, bump dmin (bump dmin (bump dmin e1 e2) e3) e4) := rfl

theorem add_le_bump (dmin a b : K) : a + dmin ≤ bump dmin a b := by
  unfold bump; split_ifs with h
  · exact le_rfl
  · exact le_sub_iff_add_le'.mp (not_lt.mp h)

theorem le_bump (dmin a b : K) : b ≤ bump dmin a b := by
  unfold bump; split_ifs with h
  · exact (sub_lt_iff_lt_add'.mp h).le
  · exact le_rfl

/-- if the previous corner was moved up by at most `k`, this one is moved up by at most `k + diff_min` -/
theorem bump_le {dmin a b k : K} (hk : a ≤ b + k) (hkd : 0 ≤ k + dmin) : bump dmin a b ≤ b + (k + dmin) := by
  unfold bump; split_ifs
  · rw [← add_assoc]; exact add_le_add hk le_rfl
  · exact le_add_of_nonneg_right hkd

/-- after the separation pass the corners are strictly increasing — for ANY input (sorted or not), as soon as
    `diff_min > 0` -/
theorem sep4_incr {dmin : K} (hd : 0 < dmin) (e1 e2 e3 e4 : K) :
    Incr (sep4 dmin e1 e2 e3 e4).1 (sep4 dmin e1 e2 e3 e4).2.1 (sep4 dmin e1 e2 e3 e4).2.2.1
      (sep4 dmin e1 e2 e3 e4).2.2.2 := by
  rw [sep4_eq_bump]
  exact ⟨(lt_add_of_pos_right _ hd).trans_le (add_le_bump _ _ _),
    (lt_add_of_pos_right _ hd).trans_le (add_le_bump _ _ _), (lt_add_of_pos_right _ hd).trans_le (add_le_bump _ _ _)⟩

/-- after the separation pass consecutive corners are at least `diff_min` apart (any input, any `diff_min`) -/
theorem sep4_gap {dmin : K} (e1 e2 e3 e4 : K) :
    dmin ≤ (sep4 dmin e1 e2 e3 e4).2.1 - (sep4 dmin e1 e2 e3 e4).1 ∧
    dmin ≤ (sep4 dmin e1 e2 e3 e4).2.2.1 - (sep4 dmin e1 e2 e3 e4).2.1 ∧
    dmin ≤ (sep4 dmin e1 e2 e3 e4).2.2.2 - (sep4 dmin e1 e2 e3 e4).2.2.1 := by
  rw [sep4_eq_bump]
  exact ⟨le_sub_iff_add_le'.mpr (add_le_bump _ _ _), le_sub_iff_add_le'.mpr (add_le_bump _ _ _),
    le_sub_iff_add_le'.mpr (add_le_bump _ _ _)⟩

theorem sep4_id {dmin e1 e2 e3 e4 : K} (h12 : dmin ≤ e2 - e1) (h23 : dmin ≤ e3 - e2) (h34 : dmin ≤ e4 - e3) :
    sep4 dmin e1 e2 e3 e4 = (e1, e2, e3, e4) := by
  unfold sep4
  simp only [not_lt.mpr h12, not_lt.mpr h23, not_lt.mpr h34, if_false]

theorem sep4_shift {dmin : K} (hd : 0 ≤ dmin) {e1 e2 e3 e4 : K} (h12 : e1 ≤ e2) (h23 : e2 ≤ e3) (h34 : e3 ≤ e4) :
    (sep4 dmin e1 e2 e3 e4).1 = e1 ∧
    (e2 ≤ (sep4 dmin e1 e2 e3 e4).2.1 ∧ (sep4 dmin e1 e2 e3 e4).2.1 ≤ e2 + dmin) ∧
    (e3 ≤ (sep4 dmin e1 e2 e3 e4).2.2.1 ∧ (sep4 dmin e1 e2 e3 e4).2.2.1 ≤ e3 + 2 * dmin) ∧
    (e4 ≤ (sep4 dmin e1 e2 e3 e4).2.2.2 ∧ (sep4 dmin e1 e2 e3 e4).2.2.2 ≤ e4 + 3 * dmin) := by
  rw [sep4_eq_bump]
  have u2 : bump dmin e1 e2 ≤ e2 + dmin := by
    have := bump_le (k := (0 : K)) ((add_zero e2).symm ▸ h12) ((zero_add dmin).symm ▸ hd)
    rwa [zero_add] at this
  have u3 : bump dmin (bump dmin e1 e2) e3 ≤ e3 + 2 * dmin :=
    two_mul dmin ▸ bump_le (u2.trans (add_le_add h23 le_rfl)) (add_nonneg hd hd)
  have u4 : bump dmin (bump dmin (bump dmin e1 e2) e3) e4 ≤ e4 + 3 * dmin := by
    have := bump_le (u3.trans (add_le_add h34 le_rfl)) (add_nonneg (mul_nonneg zero_le_two hd) hd)
    rwa [show 2 * dmin + dmin = 3 * dmin by ring] at this
  exact ⟨rfl, ⟨le_bump _ _ _, u2⟩, ⟨le_bump _ _ _, u3⟩, ⟨le_bump _ _ _, u4⟩⟩

end WB.C14
