/-
  C18: what the readers see in the files produced by the writers (`_hr.dat`, WCC file, `_tb.dat`).  Every file body
  is a run of blocks of constant length, and every reader addresses line `j` of block `i` as `i * c + j`.
-/
import WB.Lemmas.C18Flat
import Mathlib.Algebra.Field.Basic
import Mathlib.Tactic.IntervalCases

namespace WB.C18

variable {V : Type}

/-! ### `_hr.dat` -/

section hr
variable [Mul V] [Div V] [IntCast V]

/-- `Rs` needs `0 < s.nw`: the reader takes each R-vector from the first line of its block, and blocks are empty
    when `nw = 0`.  The `getD` defaults 1 (writer) and 0 (reader) are never reached under `hnd`. -/
theorem readHr_writeHrNd (ρ : V → V) (nd : List Int) (s : Sys V) (hnd : nd.length = s.Rs.length) :
    (readHr (writeHrNd ρ nd s)).nw = s.nw ∧
    (0 < s.nw → (readHr (writeHrNd ρ nd s)).Rs = s.Rs) ∧
    ∀ ir m n, ir < s.Rs.length → m < s.nw → n < s.nw →
      (readHr (writeHrNd ρ nd s)).ham ir m n =
        cdivInt (ρ (cmulInt (s.ham ir m n) (nd.getD ir 1)).1, ρ (cmulInt (s.ham ir m n) (nd.getD ir 1)).2)
          (nd.getD ir 0) := by
  set body : File V := (List.range s.Rs.length).flatMap (fun ir =>
      nestNM s.nw (fun m n => hrLine ρ (s.Rs.getD ir (0, 0, 0)) m n (cmulInt (s.ham ir m n) (nd.getD ir 1))))
    with hbody
  have hnw : (tokInt (lineAt (writeHrNd ρ nd s) 1) 0).toNat = s.nw := Int.toNat_natCast _
  have hnR : (tokInt (lineAt (writeHrNd ρ nd s) 2) 0).toNat = s.Rs.length := Int.toNat_natCast _
  have hread : readInts s.Rs.length ((writeHrNd ρ nd s).drop 3) [] = (nd, body) :=
    readInts_chunks15 nd body hnd
  have hline : ∀ ir a b, ir < s.Rs.length → a < s.nw → b < s.nw →
      lineAt body (ir * (s.nw * s.nw) + (a * s.nw + b))
        = hrLine ρ (s.Rs.getD ir (0, 0, 0)) b a (cmulInt (s.ham ir b a) (nd.getD ir 1)) :=
    fun ir a b hir ha hb =>
      (getD_flatMap_range_const _ _ (fun _ => length_nestNM _ _) [] _ ir _ hir (mul_add_lt_mul ha hb)).trans
        (getD_nestNM _ _ a b ha hb)
  refine ⟨hnw, fun hpos => ?_, fun ir m n hir hm hn => ?_⟩
  · simp only [readHr, hnw, hnR, hread]
    refine map_range_eq_of_getD (0, 0, 0) s.Rs _ (fun ir hir => ?_)
    have := hline ir 0 0 hir hpos hpos
    rw [Nat.zero_mul, Nat.add_zero] at this
    rw [this]
    rfl
  · simp only [readHr, hnw, hnR, hread]
    rw [hline ir n m hir hn hm]
    rfl

end hr

/-! ### WCC file -/

section wcc
variable [IntCast V]

theorem toVal_val_map (κ : V → V) (r : List V) :
    (r.map (fun x => Tok.val (κ x))).map Tok.toVal = r.map κ := by
  rw [List.map_map]
  rfl

theorem readWccWith_write (κ : V → V) (rows : List (List V)) (split : Nat → Nat)
    (hs : split rows.length = (rows.length + 1) / 2) :
    readWccWith split (writeWcc κ rows) = some (rows.map (fun r => r.map κ)) := by
  obtain ⟨hme, hmo⟩ := map_evens_odds (fun r : List V => r.map κ) rows
  have hdata : (writeWcc κ rows).map (fun l => l.map Tok.toVal)
      = evens (rows.map fun r => r.map κ) ++ odds (rows.map fun r => r.map κ) := by
    rw [hme, hmo, writeWcc, ← List.map_append, List.map_map]
    exact List.map_congr_left (fun r _ => toVal_val_map κ r)
  rw [← List.length_map (f := fun r : List V => r.map κ)] at hs
  generalize rows.map (fun r => r.map κ) = rk at hdata hs ⊢
  -- from here on `rk` is any list of rows
  obtain ⟨hle, hlo⟩ := length_evens_odds rk
  have hlen : (evens rk ++ odds rk).length = rk.length := by
    rw [List.length_append, hle, hlo]; omega
  unfold readWccWith
  simp only [hdata, hlen, hs]
  rw [if_pos (by omega)]
  exact congrArg some (interleave_evens_odds [] rk)

end wcc

/-! ### `_tb.dat` -/

theorem length_tbBlock (nw : Nat) (R : Vec3) (f : Nat → Nat → Line V) :
    (tbBlock nw R f).length = nw * nw + 2 :=
  congrArg (· + 2) (length_nestNM nw f)

def tbBlocks (nw : Nat) (Rs : List Vec3) (f : Nat → Nat → Nat → Line V) : File V :=
  (List.range Rs.length).flatMap (fun ir => tbBlock nw (Rs.getD ir (0, 0, 0)) (f ir))

section
variable (nw : Nat) (Rs : List Vec3) (f : Nat → Nat → Nat → Line V) (rest : File V)

theorem drop_tbBlocks : (tbBlocks nw Rs f ++ rest).drop (Rs.length * (nw * nw + 2)) = rest := by
  have h : (tbBlocks nw Rs f).length = Rs.length * (nw * nw + 2) :=
    length_flatMap_range_const _ _ (fun _ => length_tbBlock _ _ _) _
  rw [← h]
  exact List.drop_left

theorem lineAt_tbBlocks_R (ir : Nat) (hir : ir < Rs.length) :
    lineAt (tbBlocks nw Rs f ++ rest) (ir * (nw * nw + 2) + 1) = rLine (Rs.getD ir (0, 0, 0)) :=
  getD_flatMap_range_const_append _ _ (fun _ => length_tbBlock _ _ _) [] _ rest ir 1 hir (by omega)

theorem lineAt_tbBlocks_body (ir a b : Nat) (hir : ir < Rs.length) (ha : a < nw) (hb : b < nw) :
    lineAt (tbBlocks nw Rs f ++ rest) (ir * (nw * nw + 2) + (2 + (a * nw + b))) = f ir b a := by
  rw [tbBlocks, lineAt, getD_flatMap_range_const_append _ _ (fun _ => length_tbBlock _ _ _) [] _ rest ir _ hir
    (by have := mul_add_lt_mul ha hb; omega), Nat.add_comm 2]
  exact getD_nestNM nw _ a b ha hb

end

section tb
variable {K : Type} [Field K]

theorem cdiv_cmul_one (ρ : K → K) (h : K × K) :
    cdivInt (ρ (cmulInt h 1).1, ρ (cmulInt h 1).2) 1 = (ρ h.1, ρ h.2) := by
  simp only [cdivInt, cmulInt, Int.cast_one, mul_one, div_one]

theorem tokVal_tbAALine (ρ : K → K) (m n : Nat) (a : Nat → K × K) (c : Nat) (hc : c < 3) :
    (tokVal (tbAALine ρ m n a) (2 + 2 * c), tokVal (tbAALine ρ m n a) (2 + 2 * c + 1)) = (ρ (a c).1, ρ (a c).2) := by
  interval_cases c <;> rfl

variable (ρ : K → K) (s : Sys K)

theorem aaShift_eq (useII : Bool) (ir m n c : Nat) :
    aaShift s useII ir m n c =
      if useII = true ∧ ir = iR0 s.Rs ∧ m = n then ((s.aa ir m n c).1 + s.wcc m c, (s.aa ir m n c).2)
      else s.aa ir m n c := by
  simp only [aaShift, Bool.and_eq_true, beq_iff_eq, and_assoc]

/-- value written for AA: `ρ` of the (possibly shifted) matrix element -/
def aaW (useII : Bool) (ir m n c : Nat) : K × K :=
  (ρ (aaShift s useII ir m n c).1, ρ (aaShift s useII ir m n c).2)

theorem aaW_eq (useII : Bool) (ir m n c : Nat) :
    aaW ρ s useII ir m n c =
      if useII = true ∧ ir = iR0 s.Rs ∧ m = n then (ρ ((s.aa ir m n c).1 + s.wcc m c), ρ (s.aa ir m n c).2)
      else (ρ (s.aa ir m n c).1, ρ (s.aa ir m n c).2) := by
  rw [aaW, aaShift_eq]
  split <;> rfl

variable (hasAA useII needAA convII : Bool) (given : Option (Nat → Nat → K))

private theorem nw_writeTb : (tokInt (lineAt (writeTb ρ s hasAA useII) 4) 0).toNat = s.nw :=
  Int.toNat_natCast _

private theorem nR_writeTb : (tokInt (lineAt (writeTb ρ s hasAA useII) 5) 0).toNat = s.Rs.length :=
  Int.toNat_natCast _

private theorem readInts_writeTb :
    readInts s.Rs.length ((writeTb ρ s hasAA useII).drop 6) [] =
      (List.replicate s.Rs.length 1,
        tbBlocks s.nw s.Rs (fun ir m n => tbHamLine ρ m n (cmulInt (s.ham ir m n) 1)) ++
          if hasAA then tbBlocks s.nw s.Rs
            (fun ir m n => tbAALine ρ m n (fun c => cmulInt (aaShift s useII ir m n c) 1)) else []) := by
  rw [← readInts_chunks15 (List.replicate s.Rs.length 1) _ List.length_replicate, ← List.append_assoc]
  rfl

theorem readTb_writeTb_nw : (readTb (writeTb ρ s hasAA useII) needAA convII given).nw = s.nw := by
  simp only [readTb, nw_writeTb]

theorem readTb_writeTb_Rs : (readTb (writeTb ρ s hasAA useII) needAA convII given).Rs = s.Rs := by
  simp only [readTb, nw_writeTb, nR_writeTb, readInts_writeTb]
  refine map_range_eq_of_getD (0, 0, 0) s.Rs _ (fun ir hir => ?_)
  rw [lineAt_tbBlocks_R _ _ _ _ ir hir]
  rfl

theorem readTb_writeTb_lat (i j : Nat) (hi : i < 3) (hj : j < 3) :
    (readTb (writeTb ρ s hasAA useII) needAA convII given).lat i j = s.lat i j := by
  interval_cases i <;> interval_cases j <;> rfl

theorem readTb_writeTb_ham (ir m n : Nat) (hir : ir < s.Rs.length) (hm : m < s.nw) (hn : n < s.nw) :
    (readTb (writeTb ρ s hasAA useII) needAA convII given).ham ir m n = (ρ (s.ham ir m n).1, ρ (s.ham ir m n).2) := by
  simp only [readTb, nw_writeTb, nR_writeTb, readInts_writeTb]
  rw [lineAt_tbBlocks_body _ _ _ _ ir n m hir hn hm, List.getD_replicate _ hir]
  exact cdiv_cmul_one ρ (s.ham ir m n)

private theorem aaRaw_writeTb (ir m n c : Nat) (hir : ir < s.Rs.length) (hm : m < s.nw) (hn : n < s.nw) (hc : c < 3)
    (l : Line K) (hl : l = lineAt (tbBlocks s.nw s.Rs
      (fun ir m n => tbAALine ρ m n (fun c => cmulInt (aaShift s useII ir m n c) 1)))
      (ir * (s.nw * s.nw + 2) + (2 + (n * s.nw + m)))) :
    cdivInt (tokVal l (2 + 2 * c), tokVal l (2 + 2 * c + 1)) ((List.replicate s.Rs.length (1 : Int)).getD ir 0)
      = aaW ρ s useII ir m n c := by
  rw [hl, ← List.append_nil (tbBlocks _ _ _), lineAt_tbBlocks_body _ _ _ _ ir n m hir hn hm,
    tokVal_tbAALine _ _ _ _ _ hc, List.getD_replicate _ hir]
  exact cdiv_cmul_one ρ _

theorem readTb_writeTb_wcc_none (h0 : iR0 s.Rs < s.Rs.length) (i c : Nat) (hi : i < s.nw) (hc : c < 3) :
    (readTb (writeTb ρ s true useII) needAA convII none).wcc i c = (aaW ρ s useII (iR0 s.Rs) i i c).1 := by
  -- the reader's `i0` is `iR0` of the list it has just read; `hRs`, unfolded like the goal, makes that list `s.Rs`
  have hRs := readTb_writeTb_Rs ρ s true useII needAA convII none
  simp only [readTb, nw_writeTb, nR_writeTb, readInts_writeTb, if_true, drop_tbBlocks] at hRs ⊢
  rw [hRs, aaRaw_writeTb ρ s useII _ i i c h0 hi hi hc _ rfl]

theorem readTb_writeTb_aa (ir m n c : Nat) (hir : ir < s.Rs.length) (hm : m < s.nw)
    (hn : n < s.nw) (hc : c < 3) :
    let r := readTb (writeTb ρ s true useII) needAA convII given
    r.aa ir m n c =
      if needAA = true ∧ convII = true ∧ ir = iR0 s.Rs ∧ m = n then
        ((aaW ρ s useII ir m n c).1 - r.wcc m c, (aaW ρ s useII ir m n c).2)
      else aaW ρ s useII ir m n c := by
  intro r
  have hRs := readTb_writeTb_Rs ρ s true useII needAA convII given
  simp only [r, readTb, nw_writeTb, nR_writeTb, readInts_writeTb, if_true, drop_tbBlocks] at hRs ⊢
  rw [hRs, aaRaw_writeTb ρ s useII ir m n c hir hm hn hc _ rfl]
  simp only [Bool.and_eq_true, beq_iff_eq, ite_and]

end tb

end WB.C18
