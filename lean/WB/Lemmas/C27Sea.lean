/-
  Groupings of the bands (`IsPartition`, the hypothesis of the sum rule) and how ordered chains of blocks give them;
  for the Fermi-sea groups of C27 (`seaGroups`): the last band below the range, the blocks of `get_borders` as an
  ordered chain, and which of them are in range.
-/
import WB.Model.C27
import WB.Props.C15
import WB.Lemmas.C14Groups

namespace WB.C27
open WB.C15

/-! ### groupings of the bands -/

/-- `blocks` is a grouping of the bands `0..N-1`: no block listed twice, every block inside `0..N`,
    every band in exactly one block -/
structure IsPartition (N : ℕ) (blocks : List (ℕ × ℕ)) : Prop where
  nodup : blocks.Nodup
  le : ∀ ab ∈ blocks, ab.1 ≤ ab.2 ∧ ab.2 ≤ N
  cover : ∀ j, j < N → ∃ ab ∈ blocks, ab.1 ≤ j ∧ j < ab.2
  unique : ∀ ab ∈ blocks, ∀ cd ∈ blocks, ∀ j, ab.1 ≤ j → j < ab.2 → cd.1 ≤ j → j < cd.2 → ab = cd

theorem pairwise_eq_or_rel {α : Type} {R : α → α → Prop} :
    ∀ (l : List α), l.Pairwise R → ∀ x ∈ l, ∀ y ∈ l, x = y ∨ R x y ∨ R y x
  | [], _, x, hx, _, _ => by simp at hx
  | a :: l, h, x, hx, y, hy => by
    obtain ⟨h1, h2⟩ := List.pairwise_cons.mp h
    rcases List.mem_cons.mp hx with ex | hx <;> rcases List.mem_cons.mp hy with ey | hy
    · exact Or.inl (ex.trans ey.symm)
    · exact Or.inr (Or.inl (ex ▸ h1 y hy))
    · exact Or.inr (Or.inr (ey ▸ h1 x hx))
    · exact pairwise_eq_or_rel l h2 x hx y hy

theorem IsPartition.of_ordered {N : ℕ} {l : List (ℕ × ℕ)} (hord : l.Pairwise (fun x y => x.2 ≤ y.1))
    (hlt : ∀ ab ∈ l, ab.1 < ab.2) (hN : ∀ ab ∈ l, ab.2 ≤ N)
    (hcover : ∀ j, j < N → ∃ ab ∈ l, ab.1 ≤ j ∧ j < ab.2) : IsPartition N l where
  nodup := List.Pairwise.imp_of_mem (R := fun x y => x.2 ≤ y.1) (S := fun a b => a ≠ b)
    (fun {x _} hx _ h e => absurd (e ▸ h : x.2 ≤ x.1) (not_le.2 (hlt x hx))) hord
  le := fun ab hab => ⟨(hlt ab hab).le, hN ab hab⟩
  cover := hcover
  unique := by
    intro ab hab cd hcd j h1 h2 h3 h4
    rcases pairwise_eq_or_rel l hord ab hab cd hcd with h | h | h
    · exact h
    · exact absurd (lt_of_lt_of_le h2 (h.trans h3)) (lt_irrefl j)
    · exact absurd (lt_of_lt_of_le h4 (h.trans h1)) (lt_irrefl j)

theorem head_le_of_ordered {hd : ℕ × ℕ} {t : List (ℕ × ℕ)} (hord : (hd :: t).Pairwise (fun x y => x.2 ≤ y.1))
    (hlt : hd.1 < hd.2) : ∀ cd ∈ hd :: t, hd.1 ≤ cd.1 := by
  intro cd hcd
  rcases List.mem_cons.1 hcd with rfl | hcd
  · exact le_rfl
  · exact hlt.le.trans ((List.pairwise_cons.1 hord).1 cd hcd)

theorem IsPartition.lump_front {N m : ℕ} {S : List (ℕ × ℕ)} (hS : S.Pairwise (fun x y => x.2 ≤ y.1))
    (hlt : ∀ ab ∈ S, ab.1 < ab.2) (hN : ∀ ab ∈ S, ab.2 ≤ N) (hmN : m ≤ N) (hm : ∀ ab ∈ S, m ≤ ab.1)
    (hcover : ∀ j, j < N → j < m ∨ ∃ ab ∈ S, ab.1 ≤ j ∧ j < ab.2) :
    IsPartition N ((if m > 0 then [(0, m)] else []) ++ S) := by
  by_cases h0 : m > 0
  · rw [if_pos h0]
    exact IsPartition.of_ordered (List.pairwise_cons.2 ⟨hm, hS⟩) (List.forall_mem_cons.2 ⟨h0, hlt⟩)
      (List.forall_mem_cons.2 ⟨hmN, hN⟩) fun j hj => (hcover j hj).elim
        (fun h => ⟨(0, m), List.mem_cons_self, Nat.zero_le j, h⟩)
        fun ⟨ab, hab, h⟩ => ⟨ab, List.mem_cons_of_mem _ hab, h⟩
  · rw [if_neg h0]
    exact IsPartition.of_ordered hS hlt hN fun j hj => (hcover j hj).resolve_left fun h => h0 (Nat.zero_lt_of_lt h)

/-! ### `get_bands_below_range` (`belowRange`) -/

theorem belowRange_succ (E : ℕ → ℚ) (emin : ℚ) (n : ℕ) :
    belowRange E emin (n + 1) = if E n < emin then n + 1 else belowRange E emin n := by
  unfold belowRange
  rw [List.range_succ, List.reverse_append, List.reverse_singleton, List.singleton_append, List.find?_cons]
  by_cases h : E n < emin
  · rw [if_pos h, decide_eq_true h]
  · rw [if_neg h, decide_eq_false h]

theorem belowRange_spec (E : ℕ → ℚ) (emin : ℚ) (n : ℕ) :
    belowRange E emin n ≤ n ∧ (∀ i, i < n → E i < emin → i < belowRange E emin n) ∧
      (0 < belowRange E emin n → E (belowRange E emin n - 1) < emin) := by
  induction n with
  | zero => exact ⟨le_rfl, fun i hi => absurd hi (Nat.not_lt_zero i), fun h => absurd h (lt_irrefl 0)⟩
  | succ n ih =>
    rw [belowRange_succ]
    split_ifs with h
    · exact ⟨le_rfl, fun i hi _ => hi, fun _ => h⟩
    · obtain ⟨h1, h2, h3⟩ := ih
      refine ⟨Nat.le_succ_of_le h1, fun i hi hE => ?_, h3⟩
      rcases Nat.lt_succ_iff_lt_or_eq.1 hi with hi | rfl
      · exact h2 i hi hE
      · exact absurd hE h

/-! ### the blocks of `get_borders` as an ordered chain -/

theorem pairs_ordered : ∀ l : List ℕ, l.Pairwise (· < ·) → (pairs l).Pairwise (fun x y => x.2 ≤ y.1)
  | [], _ => by simp [pairs]
  | [x], _ => by simp [pairs]
  | x :: y :: rest, hs => by
    rw [pairs]
    have hs' := (List.pairwise_cons.mp hs).2
    exact List.pairwise_cons.mpr
      ⟨fun cd hcd => by
        obtain ⟨ha, -⟩ := pairs_mem_consecutive _ hs' cd.1 cd.2 hcd
        rcases List.mem_cons.mp ha with h | h
        · exact h.ge
        · exact ((List.pairwise_cons.mp hs').1 _ h).le,
       pairs_ordered (y :: rest) hs'⟩

theorem blocks_ordered (E : ℕ → ℚ) (th : ℚ) (n : ℕ) (kr : Bool) :
    (blocks E th n kr).Pairwise (fun x y => x.2 ≤ y.1) :=
  pairs_ordered _ (borders_sorted E th n kr)

theorem blocks_lt_le {E : ℕ → ℚ} {th : ℚ} {n : ℕ} {kr : Bool} {ab : ℕ × ℕ} (h : ab ∈ blocks E th n kr) :
    ab.1 < ab.2 ∧ ab.2 ≤ n := by
  obtain ⟨_, hb, hlt, _⟩ := pairs_mem_consecutive _ (borders_sorted E th n kr) ab.1 ab.2 h
  exact ⟨hlt, ((mem_borders ..).1 hb).1⟩

theorem mem_bandsInRange_iff_last (E : ℕ → ℚ) (th : ℚ) (n : ℕ) (kr : Bool) (emin emax : ℚ)
    (hsorted : ∀ i j, i ≤ j → j < n → E i ≤ E j) (hmax : ∀ i, i < n → E i ≤ emax) (ab : ℕ × ℕ) :
    ab ∈ bandsInRange E th n kr emin emax ↔ ab ∈ blocks E th n kr ∧ emin ≤ E (ab.2 - 1) := by
  unfold bandsInRange
  rw [List.mem_filter]
  refine and_congr_right fun h => ?_
  obtain ⟨hlt, hle⟩ := blocks_lt_le h
  rw [Bool.and_eq_true, decide_eq_true_eq, decide_eq_true_eq, ge_iff_le,
    WB.C14.sliceMax_ge_mono E n _ _ hlt hle hsorted,
    and_iff_left ((WB.C14.sliceMin_le_iff ..).2 (Or.inl (hmax _ (lt_of_lt_of_le hlt hle))))]

end WB.C27
