/-
  C09: the concrete group on which the examples of `Props/C09.lean` run the closure loop, the lattice checks and the star.
-/
import WB.Model.C09

namespace WB.C09

/-- the four-fold rotation about z, as `PointSymmetry(R)` builds it -/
def exC4z : PSym Rat := PSym.mk' (matOfList [0, -1, 0, 1, 0, 0, 0, 0, 1]) false
/-- a mirror combined with time reversal (`Mx * TimeReversal`) -/
def exMxT : PSym Rat := PSym.mk' (matOfList [-1, 0, 0, 0, 1, 0, 0, 0, 1]) true

theorem map_eq_some_comp {α β γ : Type} {o : Option α} {f : α → β} {t : β} (h : o.map f = some t) (g : β → γ) :
    o.map (fun a => g (f a)) = some (g t) := by
  cases o with
  | none => cases h
  | some a => exact congrArg (Option.map g) h

/-- One run of the closure loop on `C4z`, `Mx·T` (the magnetic group 4m'm') serves all the examples, which project this tuple. -/
theorem exGroup_eval :
    (generate [exC4z, exMxT]).map (fun L => (L.length, checkBasis L matId,
      symmetricGrid L matId (vecOfList [4, 4, 2]), symmetricGrid L matId (vecOfList [4, 2, 2]),
      (star L matId (vecOfList [1/4, 0, 0])).length, (star L matId (vecOfList [1/8, 1/4, 3/8])).length))
      = some (8, true, true, false, 4, 8) := by
  decide +kernel

end WB.C09
