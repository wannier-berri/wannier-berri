/-
  C31 helper lemmas: on a stencil closed under negation only the odd part of `b ↦ f(k+b)` survives, and polynomial
  Hamiltonians in tensor form.
-/
import WB.Lemmas.C31
import Mathlib.Tactic.FinCases
import Mathlib.Data.Fintype.Basic

namespace WB.C31

variable {K : Type} [Field K] [CharZero K]

/-- pure cubic form `Σ t_acd v_a v_c v_d` -/
def cub3 {K} [Add K] [Mul K] (t : Fin 3 → Fin 3 → Fin 3 → K) (v : V3 K) : K :=
  sum3 (fun a => sum3 (fun c => sum3 (fun d => t a c d * v a * v c * v d)))

/-! ### the stencil sees the odd part -/

omit [CharZero K] in
theorem mom_linear (bs : List (BPoint K)) (A1 : Fin 3 → K) (e : Fin 3) :
    mom (fun b => sum3 (fun a => A1 a * b a) * b e) bs = sum3 (fun a => A1 a * mom2 bs a e) := by
  rw [mom_congr _ (fun b => sum3 (fun a => A1 a * (b a * b e))) (fun b => by simp only [sum3]; ring)]
  simp only [sum3, mom2, mom_add, mom_smul]

/-- if `f(k + b) = Ev(b) + Σ_a A1_a b_a + R(b)` along the stencil with `Ev` even, the even part drops out and the
    stencil returns `Σ_a A1_a M2_ae + Σ_b w_b R(b) b_e` -/
theorem deriv3D_expansion (bs : List (BPoint K)) (hneg : (bs.map BPoint.neg).Perm bs) (f : V3 K → K) (k : V3 K)
    (Ev R : V3 K → K) (hEv : ∀ b, Ev (fun a => -b a) = Ev b) (A1 : Fin 3 → K)
    (hf : ∀ p ∈ bs, f (vadd k p.bred) = Ev p.bcart + sum3 (fun a => A1 a * p.bcart a) + R p.bcart) (e : Fin 3) :
    deriv3D f k e bs = sum3 (fun a => A1 a * mom2 bs a e) + mom (fun b => R b * b e) bs := by
  rw [deriv3D_eq_mom f k e (fun b => Ev b + sum3 (fun a => A1 a * b a) + R b) bs hf,
    mom_congr _ (fun b => Ev b * b e + (sum3 (fun a => A1 a * b a) * b e + R b * b e)) (fun b => by ring),
    mom_add, mom_add, mom_odd_zero _ (fun b => by rw [hEv]; ring) bs hneg, zero_add, mom_linear]

omit [CharZero K] in
theorem mom_cub3 (bs : List (BPoint K)) (t : Fin 3 → Fin 3 → Fin 3 → K) (e : Fin 3) :
    mom (fun b => cub3 t b * b e) bs = sum3 (fun a => sum3 (fun c => sum3 (fun d => t a c d * mom4 bs a c d e))) := by
  simp only [cub3, sum3, mom4, add_mul, mul_assoc, mom_add, mom_smul]

omit [CharZero K] in
theorem sum3_mul_ite (f : Fin 3 → K) (e : Fin 3) : sum3 (fun a => f a * (if a = e then 1 else 0)) = f e := by
  fin_cases e <;> simp [sum3]

/-! ### polynomial Hamiltonians (tensor form), both k-vector conventions

  `A` maps the reduced k-vector to the argument of the Hamiltonian (`A = recip_lattice` for
  `k_vector_cartesian=True`, `A = 1` for `False`); `C` maps a Cartesian displacement to the displacement of the
  Hamiltonian's argument (`C = 1`, resp. `C = recip_lattice⁻¹`): hypothesis `toCart A b_red = toCart C b_cart`. -/

/-- chain rule: Cartesian gradient of `q ↦ cubic(q)` when `dq = C · dk_cart` -/
def gradC {K} [Add K] [Mul K] (C : Fin 3 → Fin 3 → K) (g : Fin 3 → K) (h : Fin 3 → Fin 3 → K)
    (t : Fin 3 → Fin 3 → Fin 3 → K) (q : V3 K) (e : Fin 3) : K :=
  sum3 (fun a => C e a * cubicGrad g h t q a)

def hessC {K} [Add K] [Mul K] (C : Fin 3 → Fin 3 → K) (h : Fin 3 → Fin 3 → K)
    (t : Fin 3 → Fin 3 → Fin 3 → K) (q : V3 K) (e1 e2 : Fin 3) : K :=
  sum3 (fun a => sum3 (fun b => C e1 a * C e2 b * cubicHess h t q a b))

def d3C {K} [Add K] [Mul K] (C : Fin 3 → Fin 3 → K) (t : Fin 3 → Fin 3 → Fin 3 → K) (e1 e2 e3 : Fin 3) : K :=
  sum3 (fun a => sum3 (fun b => sum3 (fun c => C e1 a * C e2 b * C e3 c * cubicD3 t a b c)))

/-- the degree-3 error term of the first numerical derivative: `Σ_b w_b T3(C b) b_e` (independent of k) -/
def err1 {K} [Add K] [Mul K] [OfNat K 0] (bs : List (BPoint K)) (C : Fin 3 → Fin 3 → K)
    (t : Fin 3 → Fin 3 → Fin 3 → K) (e : Fin 3) : K :=
  mom (fun b => cub3 t (toCart C b) * b e) bs

omit [CharZero K] in
theorem toCart_vadd (A : Fin 3 → Fin 3 → K) (x y : V3 K) : toCart A (vadd x y) = vadd (toCart A x) (toCart A y) := by
  funext c; simp only [toCart, vadd, sum3]; ring

omit [CharZero K] in
theorem toCart_neg (A : Fin 3 → Fin 3 → K) (x : V3 K) : toCart A (fun a => -x a) = fun c => -toCart A x c := by
  funext c; simp only [toCart, sum3]; ring

omit [CharZero K] in
theorem toCart_one (x : V3 K) : toCart (fun a c => if a = c then 1 else 0) x = x := by
  funext c; fin_cases c <;> simp [toCart, sum3]

omit [CharZero K] in
theorem sum3_mul_toCart (C : Fin 3 → Fin 3 → K) (x : Fin 3 → K) (b : V3 K) :
    sum3 (fun a => x a * toCart C b a) = sum3 (fun e => sum3 (fun a => C e a * x a) * b e) := by
  simp only [toCart, sum3]; ring

/-- the part of `cubic (q + v)` that is even in `v` -/
def evenPart (c0 : K) (g : Fin 3 → K) (h : Fin 3 → Fin 3 → K) (t : Fin 3 → Fin 3 → Fin 3 → K) (q v : V3 K) : K :=
  cubic c0 g h t q
    + sum3 (fun a => sum3 (fun c => (h a c + sum3 (fun d => (t a c d + t a d c + t d a c) * q d)) * v a * v c))

omit [CharZero K] in
theorem evenPart_neg (c0 : K) (g : Fin 3 → K) (h : Fin 3 → Fin 3 → K) (t : Fin 3 → Fin 3 → Fin 3 → K) (q v : V3 K) :
    evenPart c0 g h t q (fun a => -v a) = evenPart c0 g h t q v := by
  simp only [evenPart, neg_mul, mul_neg, neg_neg]

omit [CharZero K] in
theorem cubic_shift (c0 : K) (g : Fin 3 → K) (h : Fin 3 → Fin 3 → K) (t : Fin 3 → Fin 3 → Fin 3 → K) (q v : V3 K) :
    cubic c0 g h t (vadd q v)
      = evenPart c0 g h t q v + sum3 (fun a => cubicGrad g h t q a * v a) + cub3 t v := by
  simp only [cubic, evenPart, cubicGrad, cub3, sum3, vadd]; ring

omit [CharZero K] in
theorem err1_zero (bs : List (BPoint K)) (C : Fin 3 → Fin 3 → K) (e : Fin 3) :
    err1 bs C (fun _ _ _ => (0 : K)) e = 0 := by
  unfold err1
  rw [mom_congr _ (fun b => 0 * b e) (fun b => by simp [cub3, sum3]), mom_smul, zero_mul]

/-! ### the derivatives of a cubic are again polynomials in tensor form (one index at a time) -/

omit [CharZero K] in
theorem cubicGrad_eq_cubic (g : Fin 3 → K) (h : Fin 3 → Fin 3 → K) (t : Fin 3 → Fin 3 → Fin 3 → K) (q : V3 K)
    (a : Fin 3) :
    cubicGrad g h t q a
      = cubic (g a) (fun x => h x a + h a x) (fun x y => t a x y + t x a y + t x y a) (fun _ _ _ => 0) q := by
  simp only [cubicGrad, cubic, sum3, zero_mul, add_zero]

omit [CharZero K] in
theorem cubicGrad_of_cubicGrad (h : Fin 3 → Fin 3 → K) (t : Fin 3 → Fin 3 → Fin 3 → K) (q : V3 K) (a b : Fin 3) :
    cubicGrad (fun x => h x a + h a x) (fun x y => t a x y + t x a y + t x y a) (fun _ _ _ => 0) q b
      = cubicHess h t q a b := by
  simp only [cubicGrad, cubicHess, sum3, zero_mul, add_zero]; ring

omit [CharZero K] in
theorem cubicHess_eq_cubic (h : Fin 3 → Fin 3 → K) (t : Fin 3 → Fin 3 → Fin 3 → K) (q : V3 K) (a b : Fin 3) :
    cubicHess h t q a b
      = cubic (h b a + h a b) (fun x => t a b x + t b a x + t a x b + t b x a + t x a b + t x b a)
          (fun _ _ => 0) (fun _ _ _ => 0) q := by
  simp only [cubicHess, cubic, sum3, zero_mul, add_zero]

omit [CharZero K] in
theorem cubicGrad_of_cubicHess (t : Fin 3 → Fin 3 → Fin 3 → K) (q : V3 K) (a b c : Fin 3) :
    cubicGrad (fun x => t a b x + t b a x + t a x b + t b x a + t x a b + t x b a) (fun _ _ => 0) (fun _ _ _ => 0) q c
      = cubicD3 t a b c := by
  simp only [cubicGrad, cubicD3, sum3, zero_mul, add_zero]

end WB.C31
