/-
  C12 — property theorems: the parallel collection loop of `process()` adds every remote result exactly once
  for EVERY sequence of answers of `ray.wait`, hence equals the serial evaluation; tabulated points come back
  in path / grid order whatever the arrival order.  Helper lemmas: WB/Lemmas/C12.lean.
-/
import WB.Lemmas.C12
import Mathlib.Algebra.BigOperators.Group.List.Basic
import Mathlib.Algebra.Field.Defs

namespace WB.C12

/-- T1a (never twice).  Whatever `ray.wait` answers (any number of answers, any subsets, the loop finished or
    not), no remote result is added to `result_sum` more than once, and only indices of remotes are added. -/
theorem collect_never_twice (n nstep : Nat) (sched : List (List Nat))
    (hv : ∀ r ∈ sched, ValidReady n r) :
    (run true n nstep sched).added.Nodup ∧ ∀ i ∈ (run true n nstep sched).added, i < n := by
  have h := inv_run n nstep sched hv
  exact ⟨h.nodup, fun i hi => run_n true n nstep sched ▸ h.bounded i hi⟩

/-- T1 (exactly once).  For every schedule after which the loop has left through `break`, the log of added
    results is a permutation of all remotes: each K-point is set and added exactly once. -/
theorem collect_once (n nstep : Nat) (sched : List (List Nat))
    (hv : ∀ r ∈ sched, ValidReady n r) (hdone : (run true n nstep sched).done = true) :
    (run true n nstep sched).added.Perm (List.range n) := by
  have h := inv_run n nstep sched hv
  rw [List.perm_ext_iff_of_nodup h.nodup List.nodup_range]
  intro i
  constructor
  · intro hi; exact List.mem_range.2 (by simpa using h.bounded i hi)
  · intro hi; exact h.finished hdone i (by simpa using List.mem_range.1 hi)

/-- T1 (termination side): the loop leaves through `break` as soon as one answer contains all references. -/
theorem collect_terminates (u : Bool) (n nstep : Nat) (sched : List (List Nat))
    (h : ∃ r ∈ sched, n ≤ r.length) : (run u n nstep sched).done = true := by
  unfold run
  exact foldl_reaches_done u sched (init n nstep) (by simpa [init] using h)

/-- T1 (sum).  With values in any commutative monoid (`ResultDict` of arrays, with `None` as 0) the parallel
    `result_sum` equals the serial one — for every schedule that lets the loop finish. -/
theorem parallel_sum_eq_serial {V} [AddCommMonoid V] (v : Nat → V) (n nstep : Nat) (sched : List (List Nat))
    (hv : ∀ r ∈ sched, ValidReady n r) (hdone : (run true n nstep sched).done = true) :
    sumOver v (run true n nstep sched).added = sumOver v (serialAdded n) := by
  unfold sumOver serialAdded
  exact ((collect_once n nstep sched hv hdone).map v).sum_eq

/-- non-vacuity: the non-nested schedule observed with ray 2.48 (`[5,6,7]`, then `[0,1,2,4,6,7]`, then all) is
    valid, respects `num_returns` for 3 workers, finishes, and the repaired loop adds each of 8 remotes once -/
example :
    (∀ r ∈ [[5, 6, 7], [0, 1, 2, 4, 6, 7], [0, 1, 2, 3, 4, 5, 6, 7]], ValidReady 8 r) ∧
    admissible true 8 3 [[5, 6, 7], [0, 1, 2, 4, 6, 7], [0, 1, 2, 3, 4, 5, 6, 7]] (init 8 3) = true ∧
    (run true 8 3 [[5, 6, 7], [0, 1, 2, 4, 6, 7], [0, 1, 2, 3, 4, 5, 6, 7]]).done = true ∧
    (run true 8 3 [[5, 6, 7], [0, 1, 2, 4, 6, 7], [0, 1, 2, 3, 4, 5, 6, 7]]).added = [5, 6, 7, 0, 1, 2, 4, 3] := by
  refine ⟨by unfold ValidReady; decide, by decide +kernel, by decide +kernel, by decide +kernel⟩

/-- the defect that was repaired (F7): with the ORIGINAL rule `old := ready` the same admissible schedule
    adds remote 5 twice -/
theorem old_rule_double_counts :
    admissible false 8 3 [[5, 6, 7], [0, 1, 2, 4, 6, 7], [0, 1, 2, 3, 4, 5, 6, 7]] (init 8 3) = true ∧
    (run false 8 3 [[5, 6, 7], [0, 1, 2, 4, 6, 7], [0, 1, 2, 3, 4, 5, 6, 7]]).done = true ∧
    (run false 8 3 [[5, 6, 7], [0, 1, 2, 4, 6, 7], [0, 1, 2, 3, 4, 5, 6, 7]]).added
      = [5, 6, 7, 0, 1, 2, 4, 3, 5] := by
  decide +kernel

/-- T1' — the original rule was right under the extra assumption that every answer of `ray.wait` contains the
    previous one (which ray does not promise): then both rules produce the same log. -/
theorem old_rule_ok_on_nested (n nstep : Nat) (sched : List (List Nat)) (hn : Nested sched) :
    (run true n nstep sched).added = (run false n nstep sched).added ∧
    (run true n nstep sched).done = (run false n nstep sched).done ∧
    (run true n nstep sched).asked = (run false n nstep sched).asked := by
  have h : run true n nstep sched = run false n nstep sched := by
    cases sched with
    | nil => rfl
    | cons r rest => exact foldl_step_nested r rest _ hn (fun _ hi => nomatch hi)
  rw [h]
  exact ⟨rfl, rfl, rfl⟩

example : Nested [[1], [1, 3], [0, 1, 3], [0, 1, 2, 3]] := by
  refine ⟨by decide, by decide, by decide, trivial⟩

/-- T2.  `self_to_path` returns, for every path point, that point's own value — for every arrival order
    (the arrivals are any permutation of the (k-point, value) pairs; the same k-point may occur twice on a path,
    both copies then carry the value that belongs to that k-point). -/
theorem toPath_perm_invariant {κ ν} [BEq κ] [LawfulBEq κ] (val : κ → ν) (path : List κ) (arr : List (κ × ν))
    (h : arr.Perm (path.map (fun k => (k, val k)))) :
    toPath arr path = path.map (fun k => some (val k)) := by
  unfold toPath
  apply List.map_congr_left
  intro k hk
  have hmem : (k, val k) ∈ arr := h.mem_iff.2 (List.mem_map.2 ⟨k, hk, rfl⟩)
  cases hf : arr.find? (fun p => p.1 == k) with
  | none =>
    have := List.find?_eq_none.1 hf (k, val k) hmem
    simp at this
  | some p =>
    -- the first match has key `k`, and every arrival carries the value of its key
    obtain ⟨k', _, rfl⟩ := List.mem_map.1 (h.mem_iff.1 (List.mem_of_find?_eq_some hf))
    have hk' : k' = k := by simpa using List.find?_some hf
    rw [hk']; rfl

/-- T2 composed with T1: batches of `k_batch` path points evaluated by remote `ir`, stacked in the order in which
    the loop added them, are mapped back to path order with each point's own value — for every schedule. -/
theorem path_result_schedule_independent {κ ν} [BEq κ] [LawfulBEq κ] (val : κ → ν)
    (batchKeys : Nat → List κ) (n nstep : Nat) (sched : List (List Nat))
    (hv : ∀ r ∈ sched, ValidReady n r) (hdone : (run true n nstep sched).done = true) :
    let path := arrivals batchKeys (List.range n)
    let arr := arrivals (fun ir => (batchKeys ir).map (fun k => (k, val k))) (run true n nstep sched).added
    toPath arr path = path.map (fun k => some (val k)) := by
  intro path arr
  apply toPath_perm_invariant
  have hp := arrivals_perm (fun ir => (batchKeys ir).map (fun k => (k, val k))) (collect_once n nstep sched hv hdone)
  refine hp.trans (List.Perm.of_eq ?_)
  simp only [arrivals, path, List.map_flatMap]

example : toPath [((2 : Int), (20 : Rat)), (0, 0), (1, 10), (0, 0)] [0, 1, 2, 0] = [some 0, some 10, some 20, some 0] := by
  decide +kernel

/-- T2' (purity).  One call of `self_to_path` leaves the Path object as it was and returns `toPath` of the path's
    k-points and THIS call's arrivals — a function of (path, collected k-points) and of nothing else. -/
theorem selfToPath_pure {κ ν} [BEq κ] (po : PathObj κ) (arr : List (κ × ν)) :
    selfToPath false po arr = (po, toPath arr po.pts) := by
  unfold selfToPath
  rw [applyMapping_mappingOf]

/-- T2' (repeated calls).  Any number of run() calls on one Path object, each with its own arrival order (any
    permutation of the points with their own values): every call returns each path point's own value. -/
theorem repeated_runs_on_one_path {κ ν} [BEq κ] [LawfulBEq κ] (val : κ → ν) (po : PathObj κ) :
    ∀ (runs : List (List (κ × ν))), (∀ arr ∈ runs, arr.Perm (po.pts.map (fun k => (k, val k)))) →
      ∀ out ∈ runsOnPath false po runs, out = po.pts.map (fun k => some (val k))
  | [], _, out, ho => by cases ho
  | arr :: rest, h, out, ho => by
    simp only [runsOnPath, selfToPath_pure, List.mem_cons] at ho
    rcases ho with rfl | ho
    · exact toPath_perm_invariant val po.pts arr (h arr (List.mem_cons_self ..))
    · exact repeated_runs_on_one_path val po rest (fun a ha => h a (List.mem_cons_of_mem _ ha)) out ho

/-- the seeded defect T-C12: with the mapping remembered on the Path object, a serial call (arrival = path order)
    followed by a call whose batches arrive in another order returns the values of OTHER k-points -/
theorem cached_mapping_breaks_second_run :
    let po : PathObj Int := { pts := [0, 1, 2, 3], cache := none }
    let serial : List (Int × Rat) := [(0, 0), (1, 10), (2, 20), (3, 30)]
    let later : List (Int × Rat) := [(2, 20), (3, 30), (0, 0), (1, 10)]
    runsOnPath false po [serial, later] = [[some 0, some 10, some 20, some 30], [some 0, some 10, some 20, some 30]] ∧
    runsOnPath true po [serial, later] = [[some 0, some 10, some 20, some 30], [some 20, some 30, some 0, some 10]] := by
  decide +kernel

/-- T3.  `to_grid` (mean of the arrivals sitting on each grid point) does not depend on the arrival order. -/
theorem toGrid_perm_invariant {κ ν} [BEq κ] [Field ν] (arr arr' : List (κ × ν)) (h : arr.Perm arr')
    (grid : List κ) : toGrid arr grid = toGrid arr' grid := by
  unfold toGrid
  apply List.map_congr_left
  intro g _
  rw [(onGrid_perm h g).sum_eq, (onGrid_perm h g).length_eq]

/-- T3 composed with T1: the grid tabulation after the parallel loop equals the serial one, for every schedule. -/
theorem grid_result_schedule_independent {κ ν} [BEq κ] [Field ν] (batch : Nat → List (κ × ν))
    (grid : List κ) (n nstep : Nat) (sched : List (List Nat))
    (hv : ∀ r ∈ sched, ValidReady n r) (hdone : (run true n nstep sched).done = true) :
    toGrid (arrivals batch (run true n nstep sched).added) grid = toGrid (arrivals batch (serialAdded n)) grid :=
  toGrid_perm_invariant _ _ (arrivals_perm batch (collect_once n nstep sched hv hdone)) grid

example : toGrid [((1 : Int), (3 : Rat)), (0, 2), (1, 5)] [0, 1] = [2, 4] := by decide +kernel

/-- T4 (repeated parallel runs on one object).  With a fresh `ray.put` in every call the workers evaluate the object
    as it is at THAT call, whatever was stored before. -/
theorem workers_see_current_object {σ : Type} : ∀ (stored : Option σ) (states : List σ),
    workersSee false stored states = states
  | _, [] => rfl
  | stored, s :: rest => by
    simp only [workersSee]
    rw [workers_see_current_object (some s) rest]

/-- the seeded defect W-C12: re-using the reference of the first call makes every later call evaluate the FIRST state -/
theorem reused_snapshot_is_stale :
    workersSee true none [(1 : Nat), 2, 3] = [1, 1, 1] ∧ workersSee false none [(1 : Nat), 2, 3] = [1, 2, 3] := by
  decide

end WB.C12
