/-
  C22 — finite-difference b-vectors: property theorems.

  Proved for every mesh size, every k order, every b list, every (rational) mesh basis and — for the shell search —
  for EVERY behaviour of the two numerical kernels (SVD solve, parallel test).
  Not proved: existence of a complete shell set, minimality of the chosen set (they depend on the SVD solve and on
  `is_parallel_shell`, which are abstract here; the oracle shows that the real search fails for some valid lattices).  "Whole shells" is proved relative to the symmetric search box.
-/
import WB.Lemmas.C22Nb
import WB.Lemmas.C22Shells

namespace WB.C22

def GPos (N : G3) : Prop := 0 < N.1 ∧ 0 < N.2.1 ∧ 0 < N.2.2

/-- the k-point list contains every point of the Γ-centred mesh `N` (integer coordinates `0 ≤ i < N`),
    in any order, possibly with repetitions or additional points -/
def IsMeshInt (N : G3) (ks : List I3) : Prop :=
  ∀ i j l : Nat, i < N.1 → j < N.2.1 → l < N.2.2 → ((i : Int), (j : Int), (l : Int)) ∈ ks

def Incongruent (N : G3) (ks : List I3) : Prop :=
  ∀ (i j : Nat) (k k' : I3), ks[i]? = some k → ks[j]? = some k' → divisible N (sub3 k k') = true → i = j

/-! ## neighbours and lattice shifts: `find_G_and_neighbours` -/

/-- T1a (neighbour relation).  Whatever the k-point list and the b-vector: a returned neighbour index `nb` and shift
    `G` satisfy `k + b = k[nb] + G * mp_grid`, and `nb` is a valid index. -/
theorem findNb_relation (N : G3) (ks : List I3) (kb : I3) (nb : Nat) (G : I3)
    (h : findNb N ks kb = some (nb, G)) :
    ∃ k2, ks[nb]? = some k2 ∧ kb = add3 k2 (mulN G N) := by
  obtain ⟨k2, hf, rfl⟩ := findNb_eq_some N ks kb nb G h
  have hp : divisible N (sub3 kb k2) = true := by simpa using List.find?_some hf
  have hm := List.mem_of_find?_eq_some hf
  refine ⟨k2, List.mem_zipIdx_iff_getElem?.1 hm, ?_⟩
  rw [mulN_gShift N _ hp, add3_sub3]

/-- T1b.  The returned neighbour is the FIRST k-point congruent to `k + b` (the loop `break`s). -/
theorem findNb_first (N : G3) (ks : List I3) (kb : I3) (nb : Nat) (G : I3)
    (h : findNb N ks kb = some (nb, G)) :
    ∀ j k', j < nb → ks[j]? = some k' → divisible N (sub3 kb k') = false := by
  obtain ⟨k2, hf, _⟩ := findNb_eq_some N ks kb nb G h
  obtain ⟨_, i, hi, hib, hall⟩ := List.find?_eq_some_iff_getElem.1 hf
  rw [List.getElem_zipIdx] at hib
  obtain rfl : 0 + i = nb := congrArg Prod.snd hib
  intro j k' hj hk'
  have := hall j (by omega)
  rw [List.getElem_zipIdx, Bool.not_eq_true'] at this
  rwa [(List.getElem_eq_iff _).2 hk'] at this

/-- T1c (a neighbour always exists).  For a complete Γ-centred mesh in ANY order, every `k + b` — for every
    integer vector `b` — has a neighbour: the `RuntimeError` branch is unreachable. -/
theorem findNb_total (N : G3) (hN : GPos N) (ks : List I3) (hmesh : IsMeshInt N ks) (kb : I3) :
    ∃ nb G, findNb N ks kb = some (nb, G) := by
  obtain ⟨i, hi, di⟩ := exists_rep hN.1 kb.1
  obtain ⟨j, hj, dj⟩ := exists_rep hN.2.1 kb.2.1
  obtain ⟨l, hl, dl⟩ := exists_rep hN.2.2 kb.2.2
  obtain ⟨idx, hidx⟩ := List.mem_iff_getElem?.1 (hmesh i j l hi hj hl)
  have hz : (((i : Int), (j : Int), (l : Int)), idx) ∈ ks.zipIdx := List.mem_zipIdx_iff_getElem?.2 hidx
  have hdiv : divisible N (sub3 kb ((i : Int), (j : Int), (l : Int))) = true := (divisible_iff _ _).2 ⟨di, dj, dl⟩
  unfold findNb
  cases hf : ks.zipIdx.find? (fun p => divisible N (sub3 kb p.1)) with
  | none =>
    rw [List.find?_eq_none] at hf
    exact (hf _ hz hdiv).elim
  | some p => exact ⟨p.2, gShift N (sub3 kb p.1), rfl⟩

/-- T1d (uniqueness).  For pairwise incongruent k-points (a mesh without repeated points) the returned pair is the
    ONLY index and shift satisfying the neighbour relation. -/
theorem findNb_unique (N : G3) (hN : GPos N) (ks : List I3) (hinc : Incongruent N ks) (kb : I3) (nb : Nat) (G : I3)
    (h : findNb N ks kb = some (nb, G)) (i' : Nat) (k' G' : I3) (hk' : ks[i']? = some k')
    (hrel : kb = add3 k' (mulN G' N)) : i' = nb ∧ G' = G := by
  obtain ⟨k2, hk2, hrel2⟩ := findNb_relation N ks kb nb G h
  have e := hrel.symm.trans hrel2
  have e1 : k'.1 + G'.1 * N.1 = k2.1 + G.1 * N.1 := congrArg (·.1) e
  have e2 : k'.2.1 + G'.2.1 * N.2.1 = k2.2.1 + G.2.1 * N.2.1 := congrArg (·.2.1) e
  have e3 : k'.2.2 + G'.2.2 * N.2.2 = k2.2.2 + G.2.2 * N.2.2 := congrArg (·.2.2) e
  -- the two k-points are congruent, hence the same entry of the list
  have hdiv : divisible N (sub3 k' k2) = true :=
    (divisible_iff _ _).2 ⟨dvd_sub_of_shift e1.symm, dvd_sub_of_shift e2.symm, dvd_sub_of_shift e3.symm⟩
  obtain rfl : i' = nb := hinc i' nb k' k2 hk' hk2 hdiv
  obtain rfl : k' = k2 := Option.some.inj (hk'.symm.trans hk2)
  exact ⟨rfl, Prod.ext (shift_unique (Int.natCast_ne_zero.2 hN.1.ne') e1)
    (Prod.ext (shift_unique (Int.natCast_ne_zero.2 hN.2.1.ne') e2) (shift_unique (Int.natCast_ne_zero.2 hN.2.2.ne') e3))⟩

/-- T1 (whole table).  Every entry of the tables returned by `find_G_and_neighbours` satisfies
    `k + b = k[neighbour] + G * mp_grid`. -/
theorem findGN_relation (N : G3) (ks bs : List I3) (irr : List Nat) (rows : List (List (Nat × I3)))
    (h : findGN N ks bs irr = some rows) :
    List.Forall₂ (fun ik row => List.Forall₂ (fun b (r : Nat × I3) =>
      ∃ k2, ks[r.1]? = some k2 ∧ add3 (ks.getD ik (0, 0, 0)) b = add3 k2 (mulN r.2 N)) bs row) irr rows :=
  (mapM_option_forall₂ _ irr rows h).imp fun _ row hrow =>
    (mapM_option_forall₂ _ bs row hrow).imp fun _ r hr => findNb_relation N ks _ r.1 r.2 hr

/-- T1 (totality of the table).  For a complete Γ-centred mesh in any order `find_G_and_neighbours` never raises,
    for any list of b-vectors and any selection `kptirr`. -/
theorem findGN_total (N : G3) (hN : GPos N) (ks : List I3) (hmesh : IsMeshInt N ks) (bs : List I3) (irr : List Nat) :
    ∃ rows, findGN N ks bs irr = some rows :=
  mapM_option_total _ _ fun ik _ => mapM_option_total _ _ fun b _ =>
    let ⟨nb, G, h⟩ := findNb_total N hN ks hmesh (add3 (ks.getD ik (0, 0, 0)) b)
    ⟨(nb, G), h⟩

/-! ## shells: `k_to_shells` on the symmetric search box -/

/-- T2a.  The vectors of one shell have one and the same non-zero length and belong to the input. -/
theorem shell_equal_length (l : List BV) (S : Shell) (hS : S ∈ kToShells l) (p q : BV) (hp : p ∈ S) (hq : q ∈ S) :
    norm2 p.2 = norm2 q.2 ∧ norm2 p.2 ≠ 0 ∧ p ∈ l := by
  obtain ⟨L, hL, rfl⟩ := (mem_kToShells l S).1 hS
  obtain ⟨h1, h2⟩ := (mem_shellOf l L p).1 hp
  obtain ⟨_, h4⟩ := (mem_shellOf l L q).1 hq
  exact ⟨by rw [h2, h4], by rw [h2]; exact ((mem_shellKeys l L).1 hL).1, h1⟩

/-- T2b (whole shells).  A shell contains EVERY input vector of its length. -/
theorem shell_whole (l : List BV) (S : Shell) (hS : S ∈ kToShells l) (p q : BV) (hp : p ∈ S) (hq : q ∈ l)
    (hlen : norm2 q.2 = norm2 p.2) : q ∈ S := by
  obtain ⟨L, hL, rfl⟩ := (mem_kToShells l S).1 hS
  obtain ⟨_, h2⟩ := (mem_shellOf l L p).1 hp
  exact (mem_shellOf l L q).2 ⟨hq, by rw [hlen, h2]⟩

/-- T2c (partition).  Every input vector of non-zero length lies in exactly one shell. -/
theorem shells_cover_once (l : List BV) (p : BV) (hp : p ∈ l) (h0 : norm2 p.2 ≠ 0) :
    ∃! S, S ∈ kToShells l ∧ p ∈ S := by
  have hk : norm2 p.2 ∈ shellKeys l := (mem_shellKeys l _).2 ⟨h0, p, hp, rfl⟩
  refine ⟨shellOf l (norm2 p.2), ⟨(mem_kToShells l _).2 ⟨_, hk, rfl⟩, (mem_shellOf l _ p).2 ⟨hp, rfl⟩⟩, ?_⟩
  rintro S ⟨hS, hpS⟩
  obtain ⟨L, _, rfl⟩ := (mem_kToShells l S).1 hS
  obtain ⟨_, h2⟩ := (mem_shellOf l L p).1 hpS
  rw [h2]

/-- T2d.  Shells are listed by strictly increasing length. -/
theorem shells_increasing (l : List BV) :
    (kToShells l).Pairwise (fun S T => ∀ p ∈ S, ∀ q ∈ T, norm2 p.2 < norm2 q.2) := by
  rw [kToShells_eq]
  refine List.Pairwise.map _ ?_ (foldr_insertUniq_sorted _)
  intro a b hab p hp q hq
  rw [((mem_shellOf l a p).1 hp).2, ((mem_shellOf l b q).1 hq).2]
  exact hab

/-- T2e (closed under b → −b).  Every shell of the search box `±search_supercell·mp_grid` contains `−b` with `b`,
    for every basis and every mesh. -/
theorem box_shells_closed_neg (B : Basis) (N : G3) (s : Nat) (S : Shell) (hS : S ∈ kToShells (boxBV B N s))
    (p : BV) (hp : p ∈ S) : (neg3 p.1, cart B (neg3 p.1)) ∈ S := by
  obtain ⟨_, _, hpl⟩ := shell_equal_length _ S hS p p hp hp
  obtain ⟨hbox, hcart⟩ := (mem_boxBV B N s p).1 hpl
  apply shell_whole _ S hS p _ hp
  · exact (mem_boxBV B N s _).2 ⟨neg_mem_boxList N s _ hbox, rfl⟩
  · show norm2 (cart B (neg3 p.1)) = norm2 p.2
    rw [norm2_cart_neg3, hcart]

/-! ## weights: `get_shell_weights` -/

/-- T3a.  The completeness array of the RETURNED flat list `Σ_b w_b b_i b_j` is exactly the array `check_eye` the
    code tested — the expansion into per-vector weights loses and adds nothing. -/
theorem expand_completeness (ws : List Rat) (shells : List Shell) (i j : Fin 3) :
    wbb (expand ws shells) i j = checkEye ws shells i j := wbb_flatMap _ i j

/-- T3b (completeness guard).  On every successful return the flat list is the expansion of the given shells and
    `‖Σ_b w_b b bᵀ − 1‖_F ≤ bk_complete_tol`; in particular every entry is within the tolerance of δ_ij. -/
theorem shellWeights_complete (ws : List Rat) (shells : List Shell) (tol : Rat) (r : List WB3)
    (h : shellWeights ws shells tol = some r) :
    r = expand ws shells ∧ frob2 (wbb r) ≤ tol * tol ∧
      ∀ i j, (wbb r i j - delta i j) * (wbb r i j - delta i j) ≤ tol * tol := by
  unfold shellWeights at h
  split at h
  · rename_i hle
    cases h
    have e : wbb (expand ws shells) = checkEye ws shells := by
      funext i j; exact expand_completeness ws shells i j
    have hf : frob2 (wbb (expand ws shells)) ≤ tol * tol := by rw [e]; exact hle
    exact ⟨rfl, hf, fun i j => le_trans (entry_sq_le_frob2 _ i j) hf⟩
  · cases h

/-- T3c.  If the residual is exactly zero, the completeness relation holds exactly. -/
theorem complete_of_frob2_zero (r : List WB3) (h : frob2 (wbb r) ≤ 0) (i j : Fin 3) : wbb r i j = delta i j := by
  have h1 := le_trans (entry_sq_le_frob2 (wbb r) i j) h
  have h2 : (wbb r i j - delta i j) * (wbb r i j - delta i j) = 0 := le_antisymm h1 (mul_self_nonneg _)
  exact sub_eq_zero.1 (mul_self_eq_zero.mp h2)

/-- T3d (what completeness is for).  With `Σ_b w_b b_i b_j = δ_ij` the finite-difference formula
    `Σ_b w_b b (f(k+b) − f(k))` returns the exact gradient `q` of every linear function `f(k) = q·k`. -/
theorem fd_gradient_exact (r : List WB3) (h : ∀ i j, wbb r i j = delta i j) (q : Q3) (i : Fin 3) :
    (r.map (fun p => p.1 * el p.2.2 i * dot q p.2.2)).sum = el q i := by
  rw [sum_dot_eq_wbb q i r, h i 0, h i 1, h i 2]
  exact delta_contract q i

/-- T3e (one weight per shell, whole shells listed).  Every entry of the flat list carries the weight of the shell
    its vector belongs to; with one weight per shell the listed vectors are exactly the shells, concatenated. -/
theorem expand_whole_shells (ws : List Rat) (shells : List Shell) (hlen : ws.length = shells.length) :
    (expand ws shells).map (fun x => (x.2.1, x.2.2)) = shells.flatten ∧
      ∀ x ∈ expand ws shells, ∃ p ∈ ws.zip shells, x.1 = p.1 ∧ (x.2.1, x.2.2) ∈ p.2 :=
  ⟨expand_vectors ws shells hlen, fun x hx => (mem_expand ws shells x).1 hx⟩

/-! ## the shell search: `find_bk_vectors` -/

/-- T4 (soundness of the search for arbitrary kernels).  Whatever the SVD solve (`kernel`) and the parallel test
    (`par`) answer: if `find_bk_vectors` returns, then
    (a) the result is the expansion of a non-empty sub-list `t` of the shells of the search box, in order of
        increasing length, with the weights the solve produced for exactly that set;
    (b) `‖Σ_b w_b b bᵀ − 1‖_F ≤ bk_complete_tol` for the returned list;
    (c) with every `b` the list contains `−b` with the same weight;
    (d) with every `b` it contains every vector of the search box of the same length, with the same weight
        ((c) is its case `m = −b`). -/
theorem findBk_sound (par : List Shell → Shell → Bool) (kernel : List Shell → Solve) (tol : Rat)
    (B : Basis) (N : G3) (s : Nat) (r : List WB3) (h : findBk par kernel tol B N s = some r) :
    (∃ (t : List Shell) (ws : List Rat), t.Sublist (kToShells (boxBV B N s)) ∧ t ≠ [] ∧
        kernel t = .weights ws ∧ r = expand ws t) ∧
    frob2 (wbb r) ≤ tol * tol ∧
    (∀ x ∈ r, (x.1, neg3 x.2.1, cart B (neg3 x.2.1)) ∈ r) ∧
    (∀ x ∈ r, ∀ m ∈ boxList N s, norm2 (cart B m) = norm2 x.2.2 → (x.1, m, cart B m) ∈ r) := by
  unfold findBk at h
  obtain ⟨t, ws, hsub, hne, hker, hsw⟩ := findLoop_spec par kernel tol _ [] r h
  rw [List.nil_append] at hker hsw
  obtain ⟨hr, hfrob, _⟩ := shellWeights_complete ws t tol r hsw
  have hshell : ∀ x ∈ r, ∃ S ∈ kToShells (boxBV B N s), (x.2.1, x.2.2) ∈ S ∧
      ∀ y : BV, y ∈ S → (x.1, y.1, y.2) ∈ r := by
    intro x hx
    rw [hr] at hx
    obtain ⟨p, hp, hw, hmem⟩ := (mem_expand ws t x).1 hx
    refine ⟨p.2, hsub.subset (List.of_mem_zip hp).2, hmem, ?_⟩
    intro y hy
    rw [hr]
    exact (mem_expand ws t _).2 ⟨p, hp, hw, hy⟩
  refine ⟨⟨t, ws, hsub, hne, hker, hr⟩, hfrob, ?_, ?_⟩
  · intro x hx
    obtain ⟨S, hS, hxS, hall⟩ := hshell x hx
    exact hall _ (box_shells_closed_neg B N s S hS _ hxS)
  · intro x hx m hm hlen
    obtain ⟨S, hS, hxS, hall⟩ := hshell x hx
    exact hall _ (shell_whole _ S hS _ (m, cart B m) hxS ((mem_boxBV B N s _).2 ⟨hm, rfl⟩) hlen)

/-! ## non-vacuity and concrete instances -/

/-- cubic mesh basis, mesh `(1, 1, 1)`, search_supercell 1: the first shell is the six nearest neighbours, and the weight
    1/2 (= 1/(2 b²), b = 1) passes the guard exactly -/
example : (kToShells (boxBV ((1, 0, 0), (0, 1, 0), (0, 0, 1)) (1, 1, 1) 1)).head? =
    some [((-1, 0, 0), (-1, 0, 0)), ((0, -1, 0), (0, -1, 0)), ((0, 0, -1), (0, 0, -1)),
          ((0, 0, 1), (0, 0, 1)), ((0, 1, 0), (0, 1, 0)), ((1, 0, 0), (1, 0, 0))] := by decide +kernel

example : (findBk (fun _ _ => false) (fun _ => .weights [1 / 2]) (1 / 100000)
    ((1, 0, 0), (0, 1, 0), (0, 0, 1)) (1, 1, 1) 1).map (fun r => r.map (fun x => (x.1, x.2.1))) =
    some [(1 / 2, (-1, 0, 0)), (1 / 2, (0, -1, 0)), (1 / 2, (0, 0, -1)),
          (1 / 2, (0, 0, 1)), (1 / 2, (0, 1, 0)), (1 / 2, (1, 0, 0))] := by
  decide +kernel

/-- a wrong weight is rejected by the guard ("incomplete shells"), whatever the kernel claims -/
example : shellWeights [1 / 3] [[((1, 0, 0), (1, 0, 0)), ((-1, 0, 0), (-1, 0, 0)), ((0, 1, 0), (0, 1, 0)),
    ((0, -1, 0), (0, -1, 0)), ((0, 0, 1), (0, 0, 1)), ((0, 0, -1), (0, 0, -1))]] (1 / 100000) = none := by
  decide +kernel

/-- neighbours on a shuffled 2×1×2 mesh: k = (1,0,1), b = (1,0,1) → k+b = (2,0,2) = k[2] + (1,0,1)·N -/
example : findNb (2, 1, 2) [(1, 0, 0), (1, 0, 1), (0, 0, 0), (0, 0, 1)] (2, 0, 2) = some (2, (1, 0, 1)) := by
  decide +kernel

/-- that shuffled list satisfies the mesh hypothesis of `findNb_total` -/
example : IsMeshInt (2, 1, 2) [(1, 0, 0), (1, 0, 1), (0, 0, 0), (0, 0, 1)] := by
  intro i j l hi hj hl
  simp only at hi hj hl
  have hi' : i = 0 ∨ i = 1 := by omega
  have hj' : j = 0 := by omega
  have hl' : l = 0 ∨ l = 1 := by omega
  subst hj'
  rcases hi' with rfl | rfl <;> rcases hl' with rfl | rfl <;> decide

/-- an incomplete list does raise: no point congruent to (0,0,1) -/
example : findNb (2, 1, 2) [(1, 0, 0), (1, 0, 1), (0, 0, 0)] (0, 0, 1) = none := by decide +kernel

end WB.C22
