/-
  C08 — property theorems: whatever `checkTable` / `checkAll` (`WB/Model/C08.lean`) accepts is TRUE in every
  TR-symmetric / inversion-symmetric model.  A run extracts the DECLARED transforms and a term TRANSLATED from the source
  of each class and proves by `decide +kernel` `translated_table_ok : checkAll table`, `declared_table_ok : checkTable
  fallbackTable` (classes outside the translated fragment) and `get_transform_rule : checkParity parityMap`; the
  `_snapshot_ok` theorems below are the same checks on `Lemmas/C08Snapshot.lean`.

  `_partial`: `termOf` is a transcription by hand of the `nn()/ln()/trace_ln` bodies; that it denotes what the
  Python computes is checked numerically on every run (grade of every term = parity measured on the real code in
  symmetric random models), not proved.
-/
import WB.Lemmas.C08
import WB.Lemmas.C08Snapshot
import Mathlib.Algebra.Polynomial.Derivative
import Mathlib.Algebra.Polynomial.Eval.Defs
import Mathlib.Data.Complex.Basic
import Mathlib.Tactic.Ring

namespace WB.C08

variable {R : Type} [Ring R]

/-! ## T1  soundness of the graded calculus -/

/-- T1 (time reversal): the value at -k is `(-1)^t` times the complex conjugate of the value at k. -/
theorem grade_sound_TR (A : Alg R) (hA : TRSym A) (e : PExpr) (t i : Bool) (hg : grade e = .val t i) :
    A.rev (eval A e) = sg t (A.conj (eval A e)) := by
  have h := hA.sound e
  rw [hg] at h
  exact h

/-- T1 (inversion). -/
theorem grade_sound_Inv (A : Alg R) (hA : InvSym A) (e : PExpr) (t i : Bool) (hg : grade e = .val t i) :
    A.rev (eval A e) = sg i (eval A e) := by
  have h := hA.sound e
  rw [hg] at h
  exact h

/-- an expression graded `zero` vanishes identically (its declared transforms hold trivially) -/
theorem grade_zero_sound (A : Alg R) (hA : TRSym A) (e : PExpr) (hg : grade e = .zero) : eval A e = 0 := by
  have h := hA.sound e
  rw [hg] at h
  exact h

theorem isReal_sound (A : Alg R) (e : PExpr) (h : isReal e = true) : A.conj (eval A e) = eval A e := by
  induction e with
  | const q => exact A.conj_cst q
  | zero => exact map_zero _
  | E => exact A.conj_E
  | re x =>
    refine (map_mul _ _ _).trans (congrArg₂ _ (A.conj_cst _) ?_)
    exact (map_add _ _ _).trans ((congrArg _ (A.conj_conj _)).trans (add_comm _ _))
  | im x =>
    refine (map_mul _ _ _).trans (congrArg₂ _ (A.conj_cst _) ((map_mul _ _ _).trans ?_))
    rw [A.conj_I, map_sub, A.conj_conj, neg_mul, ← mul_neg, neg_sub]
  | add x y ihx ihy | mul x y ihx ihy | hmul x y ihx ihy =>
    obtain ⟨hx, hy⟩ := Bool.and_eq_true_iff.mp h
    simp only [eval, map_add, map_mul, A.conj_hmul, ihx hx, ihy hy]
  | neg _ ih | conjE _ ih | deriv _ ih | lin _ _ ih | emask _ _ ih =>
    simp only [eval, map_neg, A.conj_D, A.conj_lin, A.conj_emask, ih h]
  | wann | U | I | dagger => exact absurd h Bool.false_ne_true

/-! ## T2  a declaration accepted by `checkRow` is true -/

/-- T2 (time reversal), for an ARBITRARY expression `e`, in particular the term the translator emitted from the live
    source: the DECLARED `Transform` applied to the value at k gives the value at -k. -/
theorem declared_TR_sound_term (A : Alg R) (hA : TRSym A) (e : PExpr) (r : Row) (hrow : checkRowTerm e r = true)
    (hfacts : ∀ t ∈ tauFacts r.f r.v, TauHolds A t (eval A e)) :
    applyDecl A r.tr (eval A e) = A.rev (eval A e) :=
  checkRowTerm_sound true (hA.sound e) (isReal_sound A e) hrow hfacts

/-- T2 (inversion), for an arbitrary expression. -/
theorem declared_Inv_sound_term (A : Alg R) (hA : InvSym A) (e : PExpr) (r : Row) (hrow : checkRowTerm e r = true)
    (hfacts : ∀ t ∈ tauFacts r.f r.v, TauHolds A t (eval A e)) :
    applyDecl A r.inv (eval A e) = A.rev (eval A e) :=
  checkRowTerm_sound false (hA.sound e) (isReal_sound A e) hrow hfacts

/-- T2 for the hand-written terms -/
theorem declared_TR_sound (A : Alg R) (hA : TRSym A) (r : Row) (hrow : checkRow r = true)
    (hfacts : ∀ t ∈ tauFacts r.f r.v, TauHolds A t (eval A (termOf r.f r.v))) :
    applyDecl A r.tr (eval A (termOf r.f r.v)) = A.rev (eval A (termOf r.f r.v)) :=
  declared_TR_sound_term A hA _ r hrow hfacts

theorem declared_Inv_sound (A : Alg R) (hA : InvSym A) (r : Row) (hrow : checkRow r = true)
    (hfacts : ∀ t ∈ tauFacts r.f r.v, TauHolds A t (eval A (termOf r.f r.v))) :
    applyDecl A r.inv (eval A (termOf r.f r.v)) = A.rev (eval A (termOf r.f r.v)) :=
  declared_Inv_sound_term A hA _ r hrow hfacts

/-- T2 for the flagged lines of the TRANSLATED table of a run (`translated_table_ok` in the generated file). -/
theorem translated_TR_sound (A : Alg R) (hA : TRSym A) (t : List (Row × PExpr × Bool)) (h : checkAll t = true)
    (p : Row × PExpr × Bool) (hp : p ∈ t) (hflag : p.2.2 = true)
    (hfacts : ∀ f ∈ tauFacts p.1.f p.1.v, TauHolds A f (eval A p.2.1)) :
    applyDecl A p.1.tr (eval A p.2.1) = A.rev (eval A p.2.1) :=
  declared_TR_sound_term A hA p.2.1 p.1 ((checkAll_spec t h p hp).2.2 hflag).1 hfacts

theorem translated_Inv_sound (A : Alg R) (hA : InvSym A) (t : List (Row × PExpr × Bool)) (h : checkAll t = true)
    (p : Row × PExpr × Bool) (hp : p ∈ t) (hflag : p.2.2 = true)
    (hfacts : ∀ f ∈ tauFacts p.1.f p.1.v, TauHolds A f (eval A p.2.1)) :
    applyDecl A p.1.inv (eval A p.2.1) = A.rev (eval A p.2.1) :=
  declared_Inv_sound_term A hA p.2.1 p.1 ((checkAll_spec t h p hp).2.2 hflag).1 hfacts

/-- the committed snapshot of the declared-transform table; the live table is re-checked on every run -/
theorem declared_table_snapshot_ok : checkTable snapshotTable = true := snapshotTable_ok

/-! ## T3  the `(name, der) → parity` rule of `Data_K.covariant` -/

/-- T3.  `Xbar(name, der) = U† (∂^der X^W) U` has the parity of the real-space matrix shifted by `der` (what
    `(p + der) % 2` in `get_transform_TR / get_transform_Inv` implements). -/
theorem covariant_parity_rule (n : Name) (der : Nat) : barGrade n der = (baseGrade n).flipN der := by
  show ((Grade.val false false).mul (grade (derivN der (wannExpr n)))).mul (.val false false) = _
  rw [Grade.even_mul, Grade.mul_even, grade_derivN, grade_wannExpr]

/-- the live `(name, der)` map, snapshot (rows the calculus contradicts are the known finding below and are
    not part of the snapshot) -/
theorem get_transform_snapshot_ok : checkParity snapshotParity = true := snapshotParity_ok

/-- Known finding (latent): `get_transform_TR` lists FF, GG, rotAAab, CCab_antisym as "odd before derivative", but
    their matrices are TR-EVEN (FF(R), GG(R) real; rotAAab = ∓(i/2)·curl A, CCab_antisym = ∓(i/2)·CC). -/
theorem get_transform_TR_FF_GG_deviates :
    barGrade .FF 0 = .val false false ∧ barGrade .GG 0 = .val false false ∧
    barGrade .rotAAab 0 = .val false false ∧ barGrade .CCab_antisym 0 = .val false false ∧
    checkParRow ⟨.FF, 0, some (plainDecl true), some (plainDecl false)⟩ = false := by
  decide +kernel

/-- Known finding (latent): `tildeHab` (declared TR-odd) is TR-even and `tildeHab_d` (declared TR-even) is
    TR-odd, term by term, with and without external terms. -/
theorem tildeHab_TR_deviates :
    grade (termOf .tildeHab { cc := .CCab_antisym }) = .val false false ∧
    grade (termOf .tildeHab { cc := .CCab_antisym, ext := false }) = .val false false ∧
    grade (termOf .tildeHab_d { cc := .CCab_antisym }) = .val true true ∧
    checkRow ⟨.tildeHab, { cc := .CCab_antisym }, plainDecl true, plainDecl false⟩ = false := by
  decide +kernel

/-- Known finding: `Formula_SDCT_surf_II(sym=False)` is TR-even but has no (a,b) axis symmetry (the code
    antisymmetrises (b,c)), so its declared `transform_odd_trans_102` cannot be validated; the other seven SDCT
    variants pass. -/
theorem sdct_surfII_asym_deviates :
    grade (termOf .Formula_SDCT_surf_II { sym := false }) = .val false true ∧
    checkRow ⟨.Formula_SDCT_surf_II, { sym := false }, ⟨true, false, some [1, 0, 2]⟩, plainDecl true⟩ = false ∧
    checkRow ⟨.Formula_SDCT_surf_II, { sym := true }, ⟨true, false, some [1, 0, 2]⟩, plainDecl true⟩ = true ∧
    checkRow ⟨.Formula_SDCT_sea_I, { sym := false }, ⟨true, false, some [1, 0, 2]⟩, plainDecl true⟩ = true := by
  decide +kernel

/-! ## the axis symmetries behind `tauFacts`: elementwise (band pair (m,n) fixed, scalars commute)

Nothing connects them to `TauHolds A t ⟦e⟧` of the band-summed observable: that stays the hypothesis `hfacts` of T2. -/

section Tau
variable {K : Type} [CommRing K] (cj : K →+* K) (hcj : ∀ x, cj (cj x) = x) {ι : Type}
include hcj

/-- `Formula_OptCond`: x_ab = i A^a_mn A^b_nm = i p_a conj(p_b)  ⇒  conj x_ab = - x_ba -/
theorem optcond_tau (Iu : K) (hI : cj Iu = -Iu) (p : ι → K) (a b : ι) :
    cj (Iu * p a * cj (p b)) = -(Iu * p b * cj (p a)) := by
  simp only [map_mul, hI, hcj]; ring

/-- `InjectionCurrentFormula`: x_abc = ΔV_a A^b_mn A^c_nm with ΔV real  ⇒  conj x_abc = x_acb -/
theorem injection_tau (v p : ι → K) (hv : ∀ a, cj (v a) = v a) (a b c : ι) :
    cj (v a * p b * cj (p c)) = v a * p c * cj (p b) := by
  simp only [map_mul, hv, hcj]; ring

/-- `Formula_SDCT_surf_I`: S_abc = A^a_mn A^b_nm V^c_n  ⇒  conj S_abc = S_bac, hence Re S is symmetric and
    Im S antisymmetric in (a,b) -/
theorem surfI_tau (half nhalfI : K) (v p : ι → K) (hv : ∀ a, cj (v a) = v a) (a b c : ι) :
    let S := fun a b c => p a * cj (p b) * v c
    half * (S b a c + cj (S b a c)) = half * (S a b c + cj (S a b c)) ∧
    nhalfI * (S b a c - cj (S b a c)) = -(nhalfI * (S a b c - cj (S a b c))) := by
  simp only [map_mul, hv, hcj]
  constructor <;> ring

omit hcj in
/-- `Formula_SDCT.symsumm` (two band indices): Re(S + τS) is τ-symmetric, -Im(S - τS) is τ-antisymmetric -/
theorem symsumm_tau (half nhalfI : K) (S : ι → ι → ι → K) (a b c : ι) :
    let y := fun a b c => half * ((S a b c + S b a c) + cj (S a b c + S b a c))
    let z := fun a b c => -(nhalfI * ((S a b c - S b a c) - cj (S a b c - S b a c)))
    y b a c = y a b c ∧ z b a c = -z a b c := by
  simp only [map_add, map_sub]
  constructor <;> ring

omit hcj cj in
/-- `Formula_SDCT_surf_II(sym=True)`: V_a V_b V_c is symmetric -/
theorem surfII_sym_tau (v : ι → K) (a b c : ι) : v b * v a * v c = v a * v b * v c := by ring

end Tau

/-! ## non-vacuity: the time-reversal hypotheses of T1/T2 are satisfiable with a non-trivial `rev`

(`polyAlg` is not inversion symmetric; no model of `InvSym` is given.) -/

open Polynomial in
/-- complex polynomials in one variable k: conj = conjugate the coefficients, rev = substitute -k, D = d/dk -/
noncomputable def polyAlg : Alg (Polynomial ℂ) where
  conj := Polynomial.mapRingHom (starRingEnd ℂ)
  rev := Polynomial.compRingHom (-X)
  dag := (Polynomial.mapRingHom (starRingEnd ℂ)).toAddMonoidHom
  D := Polynomial.derivative.toAddMonoidHom
  lin := fun _ => AddMonoidHom.id _
  emask := fun _ => AddMonoidHom.id _
  hmul := AddMonoidHom.mul
  tau := fun _ => AddMonoidHom.id _
  I := C Complex.I
  cst := fun q => C (q : ℂ)
  wann := fun n => if (baseGrade n).trOdd then C Complex.I * (1 + X ^ 2) else C Complex.I * X + 1
  U := 1 + C Complex.I * X
  E := 1 + X ^ 2
  conj_conj := by
    intro x
    simp only [coe_mapRingHom, Polynomial.map_map]
    have : (starRingEnd ℂ).comp (starRingEnd ℂ) = RingHom.id ℂ := by ext z; simp
    rw [this, Polynomial.map_id]
  rev_rev := by
    intro x
    simp only [coe_compRingHom_apply]
    rw [comp_assoc, neg_comp, X_comp, neg_neg, comp_X]
  rev_conj := by
    intro x
    simp only [coe_compRingHom_apply, coe_mapRingHom, Polynomial.map_comp, Polynomial.map_neg, map_X]
  rev_dag := by
    intro x
    simp only [coe_compRingHom_apply, RingHom.toAddMonoidHom_eq_coe, AddMonoidHom.coe_coe, coe_mapRingHom,
      Polynomial.map_comp, Polynomial.map_neg, map_X]
  conj_dag := by intro x; rfl
  rev_D := by
    intro x
    simp only [coe_compRingHom_apply, LinearMap.toAddMonoidHom_coe, derivative_comp, derivative_neg, derivative_X]
    ring
  conj_D := by
    intro x
    simp only [coe_mapRingHom, LinearMap.toAddMonoidHom_coe, derivative_map]
  rev_lin := by intro t x; rfl
  conj_lin := by intro t x; rfl
  conj_emask := by intro t x; rfl
  rev_hmul := by intro x y; simp only [AddMonoidHom.mul_apply, map_mul]
  conj_hmul := by intro x y; simp only [AddMonoidHom.mul_apply, map_mul]
  conj_tau := by intro p x; rfl
  conj_I := by simp
  rev_I := by simp only [coe_compRingHom_apply, C_comp]
  conj_cst := by intro q; simp
  rev_cst := by intro q; simp only [coe_compRingHom_apply, C_comp]
  conj_E := by simp

open Polynomial in
theorem polyAlg_TRSym : TRSym polyAlg where
  wann := by
    intro n
    -- `polyAlg.wann n` depends on `n` only through the parity bit
    simp only [polyAlg]
    generalize (baseGrade n).trOdd = b
    cases b <;>
      simp only [coe_compRingHom_apply, coe_mapRingHom, if_true, if_false, Bool.false_eq_true, sg_true, sg_false,
        mul_comp, add_comp, C_comp, X_comp, one_comp, pow_comp, Polynomial.map_mul, Polynomial.map_add,
        Polynomial.map_pow, Polynomial.map_one, map_C, map_X, Complex.conj_I, C_neg, mul_neg, neg_mul, neg_neg, neg_sq]
  U := by
    simp only [polyAlg, coe_compRingHom_apply, coe_mapRingHom, mul_comp, add_comp, C_comp, X_comp, one_comp,
      Polynomial.map_mul, Polynomial.map_add, Polynomial.map_one, map_C, map_X, Complex.conj_I, C_neg, mul_neg, neg_mul]
  E := by simp only [polyAlg, coe_compRingHom_apply, add_comp, one_comp, pow_comp, X_comp, neg_sq]
  emask := by intro t x; rfl

open Polynomial in
/-- the substitution k ↦ -k is not the identity in this model -/
example : polyAlg.rev (X : Polynomial ℂ) = -X := X_comp

/-- a concrete instance of T1: the Berry curvature term with internal and external terms in the polynomial model -/
example : polyAlg.rev (eval polyAlg (termOf .Omega {})) = -polyAlg.conj (eval polyAlg (termOf .Omega {})) :=
  grade_sound_TR polyAlg polyAlg_TRSym _ true false (by decide +kernel)

/-- a concrete instance of T2: the declaration of `DerOmega`, as in the snapshot table, is true in the polynomial model -/
example : applyDecl polyAlg (plainDecl false) (eval polyAlg (termOf .DerOmega {}))
    = polyAlg.rev (eval polyAlg (termOf .DerOmega {})) :=
  declared_TR_sound polyAlg polyAlg_TRSym ⟨.DerOmega, {}, plainDecl false, plainDecl true⟩ (by decide +kernel)
    (by intro t ht; simp [tauFacts] at ht)

end WB.C08
