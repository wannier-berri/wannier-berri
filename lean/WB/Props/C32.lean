/-
  C32 — tight-binding imports reproduce the source model: property theorems.

  `K` is any field, `conj` any additive involution (complex conjugation on ℂ), `χ : Vec3 → K` ANY function of the
  lattice vector (the Bloch phase `exp(2πi k·R)` for every k is one instance).  Equality of the Bloch sums for every
  χ means equality of the Bloch Hamiltonians at every k, hence of the bands (the orbital-position phases that
  distinguish the two Bloch conventions are a diagonal unitary and do not change eigenvalues).
-/
import WB.Lemmas.C32Sum

namespace WB.C32
open WB.C18 (Vec3)

variable {K : Type} [Field K]

/-! ## the R-vector list -/

theorem rlist_complete (hops : List (Hop K)) :
    zeroV ∈ mkRs hops ∧ (∀ h ∈ hops, h.R ∈ mkRs hops ∧ negV h.R ∈ mkRs hops) ∧
    (∀ R ∈ mkRs hops, negV R ∈ mkRs hops) :=
  ⟨(mem_mkRs _ _).mpr (.inl rfl),
   fun h hh => ⟨(mem_mkRs _ _).mpr (.inr (.inl ⟨h, hh, rfl⟩)), (mem_mkRs _ _).mpr (.inr (.inr ⟨h, hh, rfl⟩))⟩,
   fun R hR => (mem_mkRs _ _).mpr <| by
    rcases (mem_mkRs _ _).mp hR with rfl | ⟨g, hg, rfl⟩ | ⟨g, hg, rfl⟩
    · exact .inl negV_zero
    · exact .inr (.inr ⟨g, hg, rfl⟩)
    · exact .inr (.inl ⟨g, hg, (negV_negV _).symm⟩)⟩

/-! ## PythTB, spinless -/

/-- T1.  The imported Hamiltonian is Hermitian for every hopping list (repeated hoppings, both directions given,
    R = 0 included) when the site energies are real. -/
theorem import_hermitian (conj : K → K) (hc0 : conj 0 = 0) (hadd : ∀ a b, conj (a + b) = conj a + conj b)
    (hinv : ∀ a, conj (conj a) = a) (hops : List (Hop K)) (norb : Nat) (E : Nat → K)
    (hE : ∀ i, conj (E i) = E i) (R : Vec3) (hR : R ∈ mkRs hops) (i j : Nat) :
    importPtb conj hops norb E ((mkRs hops).idxOf (negV R)) j i
      = conj (importPtb conj hops norb E ((mkRs hops).idxOf R) i j) := by
  obtain ⟨h0, -, hneg⟩ := rlist_complete hops
  have hnR := hneg R hR
  have key : (mkRs hops).idxOf (negV R) = (mkRs hops).idxOf zeroV ↔ (mkRs hops).idxOf R = (mkRs hops).idxOf zeroV := by
    rw [List.idxOf_inj hnR, List.idxOf_inj hR, negV_eq_iff, negV_zero]
  rw [importPtb_apply, importPtb_apply, apply_ite conj, hE,
    ← accumulate_hermitian conj hc0 hadd hinv (mkRs hops) R hR hnR i j hops]
  by_cases hij : i = j
  · subst hij
    exact if_congr (and_congr_left' key) rfl rfl
  · rw [if_neg fun h => hij h.2.1.symm, if_neg fun h => hij h.2.1]

/-- T2.  Same Bloch Hamiltonian as the source model, provided no hopping connects an orbital to itself in the home
    cell (PythTB rejects such a hopping; the on-site assignment would overwrite it). -/
theorem import_same_Hk (conj : K → K) (χ : Vec3 → K) (hops : List (Hop K)) (norb : Nat) (E : Nat → K)
    (hself : ∀ h ∈ hops, ¬ (h.R = zeroV ∧ h.i = h.j)) (i j : Nat) :
    blochSum χ (mkRs hops) (importPtb conj hops norb E) i j
      = sourceHops conj χ hops i j + (if i = j ∧ i < norb then χ zeroV * E i else 0) := by
  obtain ⟨h0, hmem, -⟩ := rlist_complete hops
  refine blochSum_onsite conj χ h0 hops hmem (fun i j => i = j ∧ i < norb) (fun i _ => E i) i j ?_
  rintro ⟨rfl, -⟩ g hg hR (⟨e1, e2⟩ | ⟨e1, e2⟩)
  · exact hself g hg ⟨hR, e1.symm.trans e2⟩
  · exact hself g hg ⟨hR, e2.symm.trans e1⟩

/-! ## TBmodels -/

/-- T1 (TBmodels): Hermitian for every stored hopping set -/
theorem tbm_hermitian (conj : K → K) (hc0 : conj 0 = 0) (hadd : ∀ a b, conj (a + b) = conj a + conj b)
    (hinv : ∀ a, conj (conj a) = a) (nw : Nat) (hop : List (Vec3 × (Nat → Nat → K)))
    (R : Vec3) (hR : R ∈ mkRs (flattenTbm nw hop)) (i j : Nat) :
    importTbm conj nw hop ((mkRs (flattenTbm nw hop)).idxOf (negV R)) j i
      = conj (importTbm conj nw hop ((mkRs (flattenTbm nw hop)).idxOf R) i j) :=
  accumulate_hermitian conj hc0 hadd hinv _ R hR ((rlist_complete _).2.2 R hR) i j _

/-- T2 (TBmodels).  `Ham_R[iR] += M ; Ham_R[inR] += M†` over the stored hopping matrices gives, for every χ, the
    Bloch sum `Σ_R χ(R) M_R + χ(-R) M_R†` — TBmodels' own definition of H(k) from its half-stored matrices. -/
theorem tbm_same_Hk (conj : K → K) (χ : Vec3 → K) (nw : Nat) (hop : List (Vec3 × (Nat → Nat → K)))
    (i j : Nat) (hi : i < nw) (hj : j < nw) :
    blochSum χ (mkRs (flattenTbm nw hop)) (importTbm conj nw hop) i j
      = (hop.map (fun p => χ p.1 * p.2 i j + χ (negV p.1) * conj (p.2 j i))).sum := by
  unfold importTbm
  rw [blochSum_accumulate conj χ _ _ (rlist_complete _).2.1 i j]
  exact sourceHops_flattenTbm conj χ nw i j hi hj hop

/-! ## PythTB, spinful -/

theorem spin_blocks (hops : List (Hop2 K)) (g : Hop K) (hg : g ∈ flattenSpin hops) :
    ∃ h ∈ hops, ∃ s t, s < 2 ∧ t < 2 ∧ g.i = 2 * h.i + s ∧ g.j = 2 * h.j + t ∧ g.R = h.R ∧ g.amp = h.amp s t := by
  unfold flattenSpin at hg
  simp only [List.mem_flatMap, List.mem_map] at hg
  obtain ⟨h, hh, st, hst, rfl⟩ := hg
  refine ⟨h, hh, st.1, st.2, ?_, ?_, rfl, rfl, rfl, rfl⟩ <;>
  · simp only [List.mem_cons, List.mem_nil_iff, or_false] at hst
    rcases hst with h | h | h | h <;> simp [h]

/-- T2 (spinful): 2×2 hopping and on-site blocks at rows `2i, 2i+1` and columns `2j, 2j+1` (spin interleaved). -/
theorem spin_same_Hk (conj : K → K) (χ : Vec3 → K) (hops : List (Hop2 K)) (norb : Nat) (E : Nat → Nat → Nat → K)
    (hself : ∀ h ∈ hops, ¬ (h.R = zeroV ∧ h.i = h.j)) (a b : Nat) :
    blochSum χ (mkRs (flattenSpin hops)) (importPtbSpin conj hops norb E) a b
      = sourceHops conj χ (flattenSpin hops) a b
        + (if a / 2 = b / 2 ∧ a / 2 < norb then χ zeroV * E (a / 2) (a % 2) (b % 2) else 0) := by
  obtain ⟨h0, hmem, -⟩ := rlist_complete (flattenSpin hops)
  refine blochSum_onsite conj χ h0 _ hmem (fun a b => a / 2 = b / 2 ∧ a / 2 < norb)
    (fun a b => E (a / 2) (a % 2) (b % 2)) a b ?_
  rintro ⟨hab, -⟩ g hg hR hor
  obtain ⟨h, hh, s, t, hs, ht, gi, gj, gR, -⟩ := spin_blocks hops g hg
  refine hself h hh ⟨gR ▸ hR, ?_⟩
  -- both ends of the elementary hopping lie in the 2×2 block of one orbital
  have half : ∀ i u, u < 2 → (2 * i + u) / 2 = i := fun i u hu => by omega
  rw [gi, gj] at hor
  rcases hor with ⟨rfl, rfl⟩ | ⟨rfl, rfl⟩ <;> rw [half _ _ hs, half _ _ ht] at hab
  · exact hab
  · exact hab.symm

/-! ## non-vacuity: the Haldane model's hopping list at Gaussian-rational parameters -/

/-- the nine hoppings of `models.Haldane_ptb` with `hop1 = -1`, `t2 = (3/20) i` (φ = π/2): the imported R list has 7
    vectors in `np.unique` order and the R = 0 block carries the on-site energies and the nearest-neighbour hopping -/
example :
    let t2 : GRat := ⟨0, 3/20⟩
    let t1 : GRat := ⟨-1, 0⟩
    let hops : List (Hop GRat) :=
      [⟨t1, 0, 1, (0, 0, 0)⟩, ⟨t1, 1, 0, (1, 0, 0)⟩, ⟨t1, 1, 0, (0, 1, 0)⟩,
       ⟨t2, 0, 0, (1, 0, 0)⟩, ⟨t2, 1, 1, (1, -1, 0)⟩, ⟨t2, 1, 1, (0, 1, 0)⟩,
       ⟨t2.conj, 1, 1, (1, 0, 0)⟩, ⟨t2.conj, 0, 0, (1, -1, 0)⟩, ⟨t2.conj, 0, 0, (0, 1, 0)⟩]
    let H := importPtb GRat.conj hops 2 (fun i => if i = 0 then ⟨-1/5, 0⟩ else ⟨1/5, 0⟩)
    mkRs hops = [(-1, 0, 0), (-1, 1, 0), (0, -1, 0), (0, 0, 0), (0, 1, 0), (1, -1, 0), (1, 0, 0)] ∧
    H 3 0 0 = ⟨-1/5, 0⟩ ∧ H 3 0 1 = ⟨-1, 0⟩ ∧ H 3 1 0 = ⟨-1, 0⟩ ∧ H 6 0 0 = ⟨0, 3/20⟩ ∧ H 0 0 0 = ⟨0, -3/20⟩ ∧
    (∀ h ∈ hops, ¬ (h.R = zeroV ∧ h.i = h.j)) := by
  decide +kernel

end WB.C32
