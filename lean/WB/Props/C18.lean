/-
  C18 — system files round-trip: property theorems.

  `ρ` is "print with the format of the file, parse again" (`%15.8e` for matrix elements); nothing is assumed
  about it, so every statement holds to printed precision: the reader returns
  exactly the printed value of the element that the writer put at that position.  `K` is any field;
  complex numbers are (re, im) pairs.
-/
import WB.Lemmas.C18Files
import WB.Lemmas.C18Npz
import Mathlib.Algebra.Order.Field.Basic

namespace WB.C18

/-! ## the 15-per-line integer header (`Ndegen`) -/

/-- for every list of degeneracies the reader's `while len(Ndegen) < nRvec` loop recovers the list and
    leaves the cursor on the first line after the header (lengths 0, 1..15, 16.. all included) -/
theorem ndegen_header_roundtrip {V : Type} (l : List Int) (rest : File V) :
    readInts l.length (chunks15 l ++ rest) [] = (l, rest) :=
  readInts_chunks15 l rest rfl

/-! ## `_hr.dat` -/

/-- T1.  `get_system_hr ∘ write_hr_file`: num_wann, the R-vectors (in order) and every matrix element come
    back, the element being the printed value of `Ham_R[iR][m][n]` — for every `num_wann ≥ 1` and every R list. -/
theorem hr_roundtrip {K : Type} [Field K] (ρ : K → K) (s : Sys K) (hnw : 0 < s.nw) :
    (readHr (writeHr ρ s)).nw = s.nw ∧ (readHr (writeHr ρ s)).Rs = s.Rs ∧
    ∀ ir m n, ir < s.Rs.length → m < s.nw → n < s.nw →
      (readHr (writeHr ρ s)).ham ir m n = (ρ (s.ham ir m n).1, ρ (s.ham ir m n).2) := by
  obtain ⟨h1, h2, h3⟩ := readHr_writeHrNd ρ (List.replicate s.Rs.length 1) s List.length_replicate
  refine ⟨h1, h2 hnw, ?_⟩
  intro ir m n hir hm hn
  have := h3 ir m n hir hm hn
  rw [List.getD_replicate _ hir, List.getD_replicate _ hir] at this
  rw [writeHr, this]
  exact cdiv_cmul_one ρ _

/-- T1'.  The reader's division by `Ndegen` inverts Wannier90's convention (elements stored multiplied by the
    degeneracy) for ANY non-zero degeneracies, when values are printed exactly. -/
theorem hr_roundtrip_ndegen {K : Type} [Field K] (nd : List Int) (s : Sys K) (hnw : 0 < s.nw)
    (hlen : nd.length = s.Rs.length) (hnz : ∀ ir, ir < s.Rs.length → ((nd.getD ir 0 : Int) : K) ≠ 0) :
    (readHr (writeHrNd id nd s)).Rs = s.Rs ∧
    ∀ ir m n, ir < s.Rs.length → m < s.nw → n < s.nw →
      (readHr (writeHrNd id nd s)).ham ir m n = s.ham ir m n := by
  obtain ⟨-, h2, h3⟩ := readHr_writeHrNd id nd s hlen
  refine ⟨h2 hnw, ?_⟩
  intro ir m n hir hm hn
  rw [h3 ir m n hir hm hn]
  have e : nd.getD ir 1 = nd.getD ir 0 := by
    rw [List.getD_eq_getElem _ _ (hlen ▸ hir), List.getD_eq_getElem _ _ (hlen ▸ hir)]
  rw [e]
  exact Prod.ext (mul_div_cancel_right₀ _ (hnz ir hir)) (mul_div_cancel_right₀ _ (hnz ir hir))

/-- non-vacuity: a 3-orbital (odd!), 2-R-vector system written and read at `Rat` -/
example :
    let s : Sys Rat := mkSys 3 [(0, 0, 0), (1, -2, 0)] [] [] ((List.range 36).map (fun i => (i : Rat) / 7)) []
    flatHam 2 3 (readHr (writeHr id s)).ham = flatHam 2 3 s.ham ∧ (readHr (writeHr id s)).Rs = s.Rs := by
  decide +kernel

/-! ## `_tb.dat` -/

/-- T2a.  Header, lattice (printed exactly by `np.savetxt`), R-vectors and Hamiltonian: for every option of
    writer and reader, every num_wann (0 included) and every R list. -/
theorem tb_roundtrip_ham {K : Type} [Field K] (ρ : K → K) (s : Sys K) (hasAA useII needAA convII : Bool)
    (given : Option (Nat → Nat → K)) :
    let r := readTb (writeTb ρ s hasAA useII) needAA convII given
    r.nw = s.nw ∧ r.Rs = s.Rs ∧ (∀ i j, i < 3 → j < 3 → r.lat i j = s.lat i j) ∧
    (∀ ir m n, ir < s.Rs.length → m < s.nw → n < s.nw → r.ham ir m n = (ρ (s.ham ir m n).1, ρ (s.ham ir m n).2)) :=
  ⟨readTb_writeTb_nw .., readTb_writeTb_Rs .., readTb_writeTb_lat ρ s hasAA useII needAA convII given,
    readTb_writeTb_ham ρ s hasAA useII needAA convII given⟩

/-- T2b.  Default options (write convention II, read with conversion to convention I, centres taken from the
    file): for a system whose AA(R=0) has a zero real diagonal (what convention I means), the centres come
    back as printed, the diagonal of AA(R=0) with real part exactly 0, every other element of AA as printed. -/
theorem tb_roundtrip_convII {K : Type} [Field K] (ρ : K → K) (s : Sys K)
    (h0 : iR0 s.Rs < s.Rs.length)
    (hdiag : ∀ i c, i < s.nw → c < 3 → (s.aa (iR0 s.Rs) i i c).1 = 0) :
    let r := readTb (writeTb ρ s true true) true true none
    (∀ i c, i < s.nw → c < 3 → r.wcc i c = ρ (s.wcc i c)) ∧
    (∀ ir m n c, ir < s.Rs.length → m < s.nw → n < s.nw → c < 3 →
      r.aa ir m n c = if ir = iR0 s.Rs ∧ m = n then (0, ρ (s.aa ir m n c).2)
                      else (ρ (s.aa ir m n c).1, ρ (s.aa ir m n c).2)) := by
  intro r
  have hwcc : ∀ i c, i < s.nw → c < 3 → r.wcc i c = ρ (s.wcc i c) := fun i c hi hc => by
    rw [readTb_writeTb_wcc_none ρ s true true true h0 i c hi hc, aaW_eq, if_pos ⟨rfl, rfl, rfl⟩,
      hdiag i c hi hc, zero_add]
  refine ⟨hwcc, fun ir m n c hir hm hn hc => ?_⟩
  rw [readTb_writeTb_aa ρ s true true true none ir m n c hir hm hn hc, aaW_eq]
  simp only [true_and]
  by_cases hd : ir = iR0 s.Rs ∧ m = n
  · simp only [if_pos hd]
    obtain ⟨rfl, rfl⟩ := hd
    rw [hwcc m c hm hc, hdiag m c hm hc, zero_add, sub_self]
  · simp only [if_neg hd]

/-- T2c.  No convention switch on either side and the centres handed to the reader: everything is the
    printed value of the original, for an arbitrary AA. -/
theorem tb_roundtrip_noswitch {K : Type} [Field K] (ρ : K → K) (s : Sys K) (h0 : iR0 s.Rs < s.Rs.length) :
    let r := readTb (writeTb ρ s true false) true false (some s.wcc)
    (∀ i c, i < s.nw → c < 3 → r.wcc i c = s.wcc i c) ∧
    (∀ ir m n c, ir < s.Rs.length → m < s.nw → n < s.nw → c < 3 →
      r.aa ir m n c = (ρ (s.aa ir m n c).1, ρ (s.aa ir m n c).2)) := by
  intro r
  refine ⟨fun i c _ _ => rfl, fun ir m n c hir hm hn hc => ?_⟩
  rw [readTb_writeTb_aa ρ s false true false (some s.wcc) ir m n c hir hm hn hc,
    if_neg (fun h => Bool.false_ne_true h.2.1), aaW_eq, if_neg (fun h => Bool.false_ne_true h.1)]

/-- T2d.  With exact printing (`ρ = id`) the convention switch II→I on reading undoes the switch I→II on
    writing for an ARBITRARY AA when the centres are handed to the reader. -/
theorem tb_roundtrip_exact_given {K : Type} [Field K] (s : Sys K) (h0 : iR0 s.Rs < s.Rs.length) :
    let r := readTb (writeTb id s true true) true true (some s.wcc)
    ∀ ir m n c, ir < s.Rs.length → m < s.nw → n < s.nw → c < 3 → r.aa ir m n c = s.aa ir m n c := by
  intro r ir m n c hir hm hn hc
  rw [readTb_writeTb_aa id s true true true (some s.wcc) ir m n c hir hm hn hc, aaW_eq]
  simp only [true_and, id]
  by_cases hd : ir = iR0 s.Rs ∧ m = n
  · simp only [if_pos hd]
    exact Prod.ext (add_sub_cancel_right _ _) rfl
  · simp only [if_neg hd]

/-- non-vacuity of the hypotheses of T2b: a 3-orbital system at `Rat` with R = 0 in second position and zero real
    diagonal of AA(0) -/
example :
    let s : Sys Rat := mkSys 3 [(1, 0, 0), (0, 0, 0)] [1, 0, 0, 0, 1, 0, 0, 0, 1] [1/2, 1/3, 1/5, 0, 1/7, 0, 2, 3, 4]
      ((List.range 36).map (fun (i : Nat) => (i : Rat))) ((List.range 108).map (fun (i : Nat) => if i ≥ 54 ∧ (i - 54) % 24 < 6 ∧ i % 2 = 0 then (0 : Rat) else (i : Rat)))
    iR0 s.Rs < s.Rs.length ∧ (∀ i < 3, ∀ c < 3, (s.aa (iR0 s.Rs) i i c).1 = 0) ∧
      flatMat 3 3 (readTb (writeTb id s true true) true true none).wcc = flatMat 3 3 s.wcc ∧
      flatAA 2 3 (readTb (writeTb id s true true) true true none).aa = flatAA 2 3 s.aa := by
  intro s
  have h0 : iR0 s.Rs < s.Rs.length := by decide +kernel
  have hdiag : ∀ i < 3, ∀ c < 3, (s.aa (iR0 s.Rs) i i c).1 = 0 := by decide +kernel
  obtain ⟨hw, ha⟩ := tb_roundtrip_convII id s h0 (fun i c hi hc => hdiag i hi c hc)
  refine ⟨h0, hdiag, flatMap_range_congr fun i hi => List.map_congr_left fun c hc => hw i c hi (List.mem_range.1 hc),
    flatMap_range_congr fun ir hir => flatMap_range_congr fun m hm => flatMap_range_congr fun n hn =>
      flatMap_range_congr fun c hc => ?_⟩
  rw [ha ir m n c hir hm hn hc]
  by_cases hd : ir = iR0 s.Rs ∧ m = n
  · obtain ⟨rfl, rfl⟩ := hd
    rw [if_pos ⟨rfl, rfl⟩, ← hdiag m hm c hc]
    rfl
  · rw [if_neg hd]
    rfl

/-- T2e.  Structured sparsity: an R-vector whose Hamiltonian block vanishes identically is written and read back
    like every other one — the R list comes back complete and in order, its AA block as printed (no convention
    switch, centres handed to the reader).  The hypothesis only names the case: T2a and T2c hold at every `ir`. -/
theorem tb_keeps_R_with_zero_ham {K : Type} [Field K] (ρ : K → K) (s : Sys K) (h0 : iR0 s.Rs < s.Rs.length)
    (ir : Nat) (hir : ir < s.Rs.length) (_hzero : ∀ m n, m < s.nw → n < s.nw → s.ham ir m n = (0, 0)) :
    let r := readTb (writeTb ρ s true false) true false (some s.wcc)
    r.Rs = s.Rs ∧ ∀ m n c, m < s.nw → n < s.nw → c < 3 → r.aa ir m n c = (ρ (s.aa ir m n c).1, ρ (s.aa ir m n c).2) := by
  intro r
  exact ⟨(tb_roundtrip_ham ρ s true false true false (some s.wcc)).2.1,
    fun m n c hm hn hc => (tb_roundtrip_noswitch ρ s h0).2 ir m n c hir hm hn hc⟩

/-- T2e'.  Counterexample for the rule "do not write R-vectors with Ham(R) = 0": a 1-orbital system with
    R = 0, (1,0,0), (-1,0,0), Ham only at R = 0 but AA also at ±(1,0,0):
    the file of the dropping writer reads back with ONE R-vector, the code's file with all three and their AA. -/
theorem dropping_zero_ham_loses_AA :
    let s : Sys Rat := mkSys 1 [(0, 0, 0), (1, 0, 0), (-1, 0, 0)] [1, 0, 0, 0, 1, 0, 0, 0, 1] [0, 0, 0]
      [3, 0, 0, 0, 0, 0] [0, 0, 0, 0, 0, 0, 1, 2, 0, 0, 0, 0, 1, -2, 0, 0, 0, 0]
    (∀ m < s.nw, ∀ n < s.nw, s.ham 1 m n = (0, 0)) ∧ iR0 s.Rs < s.Rs.length ∧
    (readTb (writeTb id (dropZeroHam s) true false) true false (some s.wcc)).Rs = [(0, 0, 0)] ∧
    (readTb (writeTb id s true false) true false (some s.wcc)).Rs = s.Rs ∧
    (readTb (writeTb id s true false) true false (some s.wcc)).aa 1 0 0 0 = (1, 2) := by
  decide +kernel

/-! ## Wannier-centre file (even rows first, then odd rows) -/

/-- T3.  `read_WCC_WT_format ∘ write_WCC_WT_format` returns the rows in the original order, each value
    being what was printed (`κ` = clip below 1e-7, then `repr`) — for every number of rows, odd included. -/
theorem wcc_roundtrip {V : Type} [IntCast V] (κ : V → V) (rows : List (List V)) :
    readWcc (writeWcc κ rows) = some (rows.map (fun r => r.map κ)) :=
  readWccWith_write κ rows _ rfl

/-- T3'.  The split point used before the repair (`n // 2`, finding F2) makes the reader fail on every file
    with an odd number of rows (numpy raises on the slice assignment). -/
theorem wcc_old_reader_fails_odd {V : Type} [IntCast V] (f : File V) (hodd : f.length % 2 = 1) :
    readWccOld f = none := by
  unfold readWccOld readWccWith
  simp only [List.length_map]
  rw [if_neg]
  omega

example : readWcc (writeWcc id [[(1 : Rat), 2, 3], [4, 5, 6], [7, 8, 9]]) = some [[1, 2, 3], [4, 5, 6], [7, 8, 9]] := by
  decide +kernel

/-! ## npz directory -/

/-- T4.  `load_npz ∘ to_npz` on the dictionary level, for EVERY order in which the directory is listed:
    the R-vector object is built from the saved lattice, R-vectors and centres (what the "load real_lattice and
    wannier_centers_cart first" rule is for), every other saved property gets its saved value, the loaded matrices
    are exactly the saved ones.  Side condition (checked on the live property names on every run): no property
    name starts with `_XX_R_`. -/
theorem npz_roundtrip {A : Type} (props mats : List (Name × A)) (listing : List Name) (L W I : A)
    (hlist : ∀ k, k ∈ listing ↔ k ∈ (saveDir props mats).map (·.1))
    (hnop : ∀ p ∈ props, xxPrefix.isPrefixOf p.1 = false)
    (hL : dirGet props nLat = some L) (hW : dirGet props nWcc = some W) (hI : dirGet props nIR = some I) :
    let r := loadDir (saveDir props mats) listing
    r.rvec = some (some L, I, some W) ∧
    (∀ k a, k ≠ nIR → dirGet props k = some a → r.attr k = some a) ∧
    (∀ k a, dirGet mats k = some a → (k, a) ∈ r.mats) ∧
    (∀ k a, (k, a) ∈ r.mats → dirGet mats k = some a) := by
  intro r
  have inv := loadDir_inv (dirGet_saveDir_prop props mats nLat L hL) (dirGet_saveDir_prop props mats nWcc W hW)
    (dirGet_saveDir_prop props mats nIR I hI) listing
  have hdone : ∀ k a, dirGet props k = some a → k ∈ r.done := fun k a hk =>
    mem_done_loadDir _ _ ((hlist k).2 (List.mem_map.2 ⟨(k, a), List.mem_append_left _ (dirGet_mem hk), rfl⟩))
      (hnop _ (dirGet_mem hk))
  refine ⟨inv.rv (hdone nIR I hI), fun k a hne hk => ?_, fun k a hk => ?_, fun k a hk => ?_⟩
  · exact (inv.loaded k (hdone k a hk) hne).trans (dirGet_saveDir_prop props mats k a hk)
  · refine (mem_loadDir_mats ..).2 ⟨(hlist _).2 (List.mem_map.2 ⟨(xxPrefix ++ k, a), List.mem_append_right _
      (List.mem_map.2 ⟨(k, a), dirGet_mem hk, rfl⟩), rfl⟩), ?_⟩
    rw [dirGet_saveDir_mat props mats k hnop, hk]
  · rw [← dirGet_saveDir_mat props mats k hnop]
    exact ((mem_loadDir_mats ..).1 hk).2

/-- non-vacuity: the essential properties of `System_R` and two matrices, listed in an order that puts `iRvec`
    first and the lattice last -/
example :
    let props : List (Name × Nat) := [("num_wann".toList, 1), (nLat, 2), (nIR, 3), ("periodic".toList, 4),
      (nWcc, 5), ("pointgroup".toList, 6)]
    let mats : List (Name × Nat) := [("Ham".toList, 10), ("AA".toList, 11)]
    let listing := [nIR, xxPrefix ++ "AA".toList, "pointgroup".toList, nWcc, "periodic".toList,
      xxPrefix ++ "Ham".toList, "num_wann".toList, nLat]
    (loadDir (saveDir props mats) listing).rvec = some (some 2, 3, some 5) ∧
      (loadDir (saveDir props mats) listing).mats = [("AA".toList, 11), ("Ham".toList, 10)] := by
  decide +kernel

/-! ## point group serialisation -/

/-- T5a.  `PointSymmetry(**sym.as_dict())` is `sym` again (the inversion flag is recomputed from the sign of
    the determinant of the full matrix) — for every symmetry whose proper part has a positive determinant. -/
theorem pointsym_dict_roundtrip {K : Type} [Field K] [LinearOrder K] [IsStrictOrderedRing K]
    (s : PSym K) (hdet : 0 < det3 s.R) :
    PSym.ofMatrix s.asDict.1 s.asDict.2 = s := by
  obtain ⟨R, TR, Inv⟩ := s
  cases Inv
  · have hneg : ¬ (det3 R < 0) := not_lt.mpr hdet.le
    simp only [PSym.ofMatrix, PSym.asDict, Bool.false_eq_true, if_false, hneg, decide_false]
  · have hneg : det3 (fun i j => - R i j) < 0 := (det3_neg R).trans_lt (neg_lt_zero.mpr hdet)
    simp only [PSym.ofMatrix, PSym.asDict, if_true, hneg, decide_true, neg_neg]

/-- T5b.  Re-generating a group from its own full element list adds nothing and keeps the order: the generators
    are read unchanged (they are pairwise different) and the closure loop returns the list after one pass —
    for every product, every equality test, every closed list shorter than the loop bound. -/
theorem pointgroup_closure_fixed {G : Type} (mul : G → G → G) (eqv : G → G → Bool) (l : List G)
    (hdistinct : l.Pairwise (fun y x => eqv x y = false))
    (hclosed : ∀ a ∈ l, ∀ b ∈ l, l.any (fun x => eqv (mul a b) x) = true)
    (fuel k : Nat) (hf : l.length < fuel) :
    generate mul eqv fuel (k + 1) l = some l := by
  unfold generate
  rw [dedupGens_fixed eqv l hdistinct]
  exact closure_closed mul eqv l hclosed fuel k hf

/-- non-vacuity: C4 × time reversal generated from two generators (8 elements) -/
example :
    let g := [[0, -1, 0, 1, 0, 0, 0, 0, 1, 0], [1, 0, 0, 0, 1, 0, 0, 0, 1, 1]]
    ∃ l, generate mulI (fun a b => a == b) 1000 64 (g ++ g) = some l ∧ l.length = 8 ∧
      generate mulI (fun a b => a == b) 1000 64 l = some l := by
  refine ⟨[[0, -1, 0, 1, 0, 0, 0, 0, 1, 0], [1, 0, 0, 0, 1, 0, 0, 0, 1, 1], [-1, 0, 0, 0, -1, 0, 0, 0, 1, 0],
    [0, -1, 0, 1, 0, 0, 0, 0, 1, 1], [0, 1, 0, -1, 0, 0, 0, 0, 1, 0], [-1, 0, 0, 0, -1, 0, 0, 0, 1, 1],
    [1, 0, 0, 0, 1, 0, 0, 0, 1, 0], [0, 1, 0, -1, 0, 0, 0, 0, 1, 1]], ?_⟩
  decide +kernel

end WB.C18
