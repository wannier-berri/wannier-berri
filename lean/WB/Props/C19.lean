/-
  C19 — Wannier90 files written by the code can be read back: property theorems.

  `ρ` = "print with the format of the file (`%17.12f`), parse again"; nothing is assumed about it.
-/
import WB.Lemmas.C19Text
import WB.Lemmas.C19Dict

namespace WB.C19
open WB.C18

/-! ## text files -/

/-- T1a.  `EIG.from_w90_file ∘ EIG.to_w90_file`: for every NK ≥ 1 and NB ≥ 1 (1×1 included) the reader succeeds
    (both index-column asserts hold, the reshape fits), finds NK and NB from the column maxima, and `data[ik][ib]`
    is the printed value of the original. -/
theorem eig_roundtrip {V : Type} [IntCast V] (ρ : V → V) (NK NB : Nat) (E : Nat → Nat → V) (hK : 0 < NK) (hB : 0 < NB) :
    ∃ r, readEig (writeEig ρ NK NB E) = some r ∧ r.NK = NK ∧ r.NB = NB ∧
      ∀ ik ib, ik < NK → ib < NB → r.E ik ib = ρ (E ik ib) := by
  obtain ⟨hB', hK'⟩ := colMax_writeEig ρ NK NB E hK hB
  have hlen := length_writeEig ρ NK NB E
  set f := writeEig ρ NK NB E
  have hne : f.isEmpty = false := by
    rw [List.isEmpty_eq_false_iff, ← List.length_pos_iff, hlen]
    exact Nat.mul_pos hK hB
  have hchk : (List.range NK).all (fun (ik : Nat) => (List.range NB).all (fun (ib : Nat) =>
      tokInt (lineAt f (ik * NB + ib)) 0 == (ib : Int) + 1 && tokInt (lineAt f (ik * NB + ib)) 1 == (ik : Int) + 1)) = true := by
    simp only [List.all_eq_true, List.mem_range]
    intro ik hk ib hb
    rw [lineAt_writeEig ρ NK NB E ik ib hk hb]
    simp only [eigLine, tokInt, Tok.toInt, List.getD_cons_zero, List.getD_cons_succ, beq_self_eq_true, Bool.and_self]
  refine ⟨{ NK := NK, NB := NB, E := fun ik ib => tokVal (lineAt f (ik * NB + ib)) 2 }, ?_, rfl, rfl, ?_⟩
  · unfold readEig readEigWith
    simp only [hne, hB', hK', Int.toNat_natCast, hlen, ne_eq, not_true_eq_false, if_false, hchk, if_true,
      Bool.false_eq_true, Bool.false_and]
  · intro ik ib hk hb
    show tokVal (lineAt f (ik * NB + ib)) 2 = _
    rw [lineAt_writeEig ρ NK NB E ik ib hk hb]
    rfl

/-- T1a' (documentation of the repaired defect F16, about the OLD reader only).  Before `ndmin=2` was added, the file
    of one k-point with one band — a single line — made `np.loadtxt` return a 1-D array and the reader raise. -/
theorem old_eig_reader_single_row_fails {V : Type} [IntCast V] (ρ : V → V) (E : Nat → Nat → V) :
    readEigOld (writeEig ρ 1 1 E) = none := by
  simp [readEigOld, readEigWith, writeEig]

/-- T1b.  `AMN.from_w90_file ∘ AMN.to_w90_file`: header `(NB, NK, NW)` and, through the writer's loop order
    `ik, iw, ib` and the reader's `reshape((NK, NW, NB)).transpose(0, 2, 1)`, every `data[ik][ib, iw]` —
    for all sizes. -/
theorem amn_roundtrip {V : Type} [IntCast V] (ρ : V → V) (NK NB NW : Nat) (A : Nat → Nat → Nat → V × V) :
    (readAmn (writeAmn ρ NK NB NW A)).NK = NK ∧ (readAmn (writeAmn ρ NK NB NW A)).NB = NB ∧
    (readAmn (writeAmn ρ NK NB NW A)).NW = NW ∧
    ∀ ik ib iw, ik < NK → ib < NB → iw < NW →
      (readAmn (writeAmn ρ NK NB NW A)).A ik ib iw = (ρ (A ik ib iw).1, ρ (A ik ib iw).2) := by
  refine ⟨Int.toNat_natCast _, Int.toNat_natCast _, Int.toNat_natCast _, fun ik ib iw hk hb hw => ?_⟩
  exact congrArg (fun l => (tokVal l 3, tokVal l 4)) (lineAt_writeAmn ρ NK NB NW A ik iw ib hk hw hb)

/-- T1c.  The loop nest of `MMN.to_w90_file` IS consistent with `MMN.from_w90_file` once the neighbour table and
    the G vectors are available: sizes, the k-point assert, neighbours, G and every `data[ik][ib, m, n]` come
    back exactly (values are printed with `str`, which round-trips).  What is broken in /repo (finding F3) is only
    that the method looks for `self.neighbours` / `self.G`, which live in `BKVectors`. -/
theorem mmn_roundtrip {V : Type} [IntCast V] (NK NNB NB : Nat) (nbr : Nat → Nat → Int) (G : Nat → Nat → Vec3)
    (M : Nat → Nat → Nat → Nat → V × V) :
    let r := readMmn (writeMmn NK NNB NB nbr G M)
    r.NK = NK ∧ r.NNB = NNB ∧ r.NB = NB ∧ r.headOk = true ∧
    (∀ ik ib, ik < NK → ib < NNB → r.nbr ik ib = nbr ik ib ∧ r.G ik ib = G ik ib) ∧
    (∀ ik ib m n, ik < NK → ib < NNB → m < NB → n < NB → r.M ik ib m n = M ik ib m n) := by
  intro r
  refine ⟨Int.toNat_natCast _, Int.toNat_natCast _, Int.toNat_natCast _, ?_, fun ik ib hk hb => ?_,
    fun ik ib m n hk hb hm hn => ?_⟩
  · show ((List.range NK).all fun ik => (List.range NNB).all fun ib =>
      tokInt (lineAt (writeMmn NK NNB NB nbr G M) (2 + (ik * NNB + ib) * (1 + NB * NB))) 0 - 1 == (ik : Int)) = true
    simp only [List.all_eq_true, List.mem_range]
    intro ik hk ib hb
    rw [lineAt_writeMmn_head NK NNB NB nbr G M ik ib hk hb]
    exact beq_iff_eq.2 (Int.add_sub_cancel _ _)
  · have h := lineAt_writeMmn_head NK NNB NB nbr G M ik ib hk hb
    exact ⟨(congrArg (fun l => tokInt l 1 - 1) h).trans (Int.add_sub_cancel _ _),
      congrArg (fun l => (tokInt l 2, tokInt l 3, tokInt l 4)) h⟩
  · exact congrArg (fun l => (tokVal l 0, tokVal l 1)) (lineAt_writeMmn_body NK NNB NB nbr G M ik ib n m hk hb hn hm)

/-- non-vacuity: a 2 k-point, 3 band, 2 Wannier-function AMN and a 2×2×3 MMN at `Rat` -/
example :
    let A := carr3 3 2 ((List.range 24).map (fun (i : Nat) => (i : Rat) / 3))
    (List.range 2).all (fun ik => (List.range 3).all (fun ib => (List.range 2).all (fun iw =>
      (readAmn (writeAmn id 2 3 2 A)).A ik ib iw == A ik ib iw))) = true := by
  decide +kernel

example : (readEig (writeEig id 2 3 (arr2 3 [1, 2, 3, 4, 5, (6 : Rat)]))).map
    (fun r => (r.NK, r.NB, r.E 0 0, r.E 0 2, r.E 1 0, r.E 1 2)) = some (2, 3, 1, 3, 4, 6) := by
  decide +kernel

/-! ## npz dictionaries -/

/-- T2.  `keydic_to_dic(dic_to_keydic(d, t), t) = d` inside the dictionary that `as_dict` stores, in the
    original key order — provided no other stored key starts with `t_` (plain tags, and the keys of the other
    dictionary tags) and `int(str(k)) = k`. -/
theorem keydic_roundtrip {A : Type} (render : Int → Name) (parse : Name → Int) (hpr : ∀ k, parse (render k) = k)
    (o : Obj A) (t : Name) (d : List (Int × A)) (hmem : (t, d) ∈ o.dicts)
    (hnd : (o.dicts.map (·.1)).Nodup)
    (hkeys : ((o.tags ++ o.dicts.flatMap (fun t => dicToKeydic render t.1 t.2)).map (·.1)).Nodup)
    (htags : ∀ p ∈ o.tags, (t ++ ['_']).isPrefixOf p.1 = false)
    (hsep : ∀ u ∈ o.dicts, u.1 ≠ t → ∀ k, (t ++ ['_']).isPrefixOf (keyOf render u.1 k) = false) :
    keydicToDic parse t (asDict render o) = d := by
  rw [asDict, dictOf_nodup _ hkeys]
  exact keydicToDic_stored render parse hpr o.tags o.dicts t d hmem hnd htags hsep

/-- T2'.  The side condition of T2 follows from a condition on the TAGS alone (this is what is re-checked on the
    live tag tables of every `SavableNPZ` subclass on every run): `t ≠ u`, `t_` is not a prefix of `u_`, and the
    decimal rendering of an integer contains no underscore. -/
theorem keydic_side_condition (render : Int → Name) (t u : Name) (hne : t ≠ u)
    (hpre : (t ++ ['_']).isPrefixOf (u ++ ['_']) = false) (hr : ∀ k, '_' ∉ render k) (k : Int) :
    (t ++ ['_']).isPrefixOf (keyOf render u k) = false := by
  rw [Bool.eq_false_iff]
  intro h
  rw [List.isPrefixOf_iff_prefix, keyOf_eq] at h
  have h2 : (u ++ ['_']) <+: (u ++ ['_']) ++ render k := List.prefix_append _ _
  rcases List.prefix_or_prefix_of_prefix h h2 with h3 | h3
  · rw [← List.isPrefixOf_iff_prefix, hpre] at h3
    exact Bool.noConfusion h3
  · obtain ⟨s, hs⟩ := h3
    rw [← hs, List.prefix_append_right_inj] at h
    cases s with
    | nil =>
      rw [List.append_nil] at hs
      exact hne (List.append_cancel_right hs).symm
    | cons c s' =>
      -- `t_` ends in '_', so the non-empty `s` does, and `s` is a prefix of `render k`
      have hlast : (c :: s').getLast? = some '_' := by
        rw [← List.getLast?_append_of_ne_nil (u ++ ['_']) (List.cons_ne_nil c s'), hs, List.getLast?_concat]
      exact hr k (h.subset (List.mem_of_getLast? hlast))

/-- T2''.  The whole object: `from_dict(as_dict(o)) = o` — every tag with its value and every dictionary with its
    keys, values and order. -/
theorem npz_object_roundtrip {A : Type} (render : Int → Name) (parse : Name → Int) (hpr : ∀ k, parse (render k) = k)
    (o : Obj A) (hnd : (o.dicts.map (·.1)).Nodup)
    (hkeys : ((o.tags ++ o.dicts.flatMap (fun t => dicToKeydic render t.1 t.2)).map (·.1)).Nodup)
    (htags : ∀ t ∈ o.dicts, ∀ p ∈ o.tags, (t.1 ++ ['_']).isPrefixOf p.1 = false)
    (hsep : ∀ t ∈ o.dicts, ∀ u ∈ o.dicts, u.1 ≠ t.1 → ∀ k, (t.1 ++ ['_']).isPrefixOf (keyOf render u.1 k) = false) :
    fromDict parse (o.tags.map (·.1)) (o.dicts.map (·.1)) (asDict render o) = o :=
  fromDict_asDict render parse hpr o hnd hkeys htags hsep

/-- T3.  The reloaded object compares equal to the original under `W90_file.equals` (same key set, `allclose` on
    every key) for every reflexive closeness test — i.e. for all data without NaN. -/
theorem equals_on_roundtrip {A : Type} (render : Int → Name) (parse : Name → Int) (hpr : ∀ k, parse (render k) = k)
    (close : A → A → Bool) (hc : ∀ a, close a a = true)
    (o : Obj A) (hnd : (o.dicts.map (·.1)).Nodup)
    (hkeys : ((o.tags ++ o.dicts.flatMap (fun t => dicToKeydic render t.1 t.2)).map (·.1)).Nodup)
    (htags : ∀ t ∈ o.dicts, ∀ p ∈ o.tags, (t.1 ++ ['_']).isPrefixOf p.1 = false)
    (hsep : ∀ t ∈ o.dicts, ∀ u ∈ o.dicts, u.1 ≠ t.1 → ∀ k, (t.1 ++ ['_']).isPrefixOf (keyOf render u.1 k) = false)
    (hdk : ∀ t ∈ o.dicts, (t.2.map (·.1)).Nodup) :
    ∀ t ∈ o.dicts, ∃ d', (t.1, d') ∈ (fromDict parse (o.tags.map (·.1)) (o.dicts.map (·.1)) (asDict render o)).dicts ∧
      dictEquals close t.2 d' = true := by
  intro t ht
  rw [fromDict_asDict render parse hpr o hnd hkeys htags hsep]
  exact ⟨t.2, ht, dictEquals_refl close hc t.2 (hdk t ht)⟩

/-- non-vacuity: an MMN-like object (tags NK; dictionaries data and bk_reorder with sparse keys 0, 2, 11) -/
example :
    let o : Obj Nat := { tags := [(['N', 'K'], 0)],
                         dicts := [(['d', 'a', 't', 'a'], [(0, 1000), (2, 1001), (11, 1002)]),
                                   (['b', 'k', '_', 'r', 'e', 'o', 'r', 'd', 'e', 'r'], [(0, 2000), (2, 2001), (11, 2002)])] }
    let r := fromDict parse10 (o.tags.map (·.1)) (o.dicts.map (·.1)) (asDict render10 o)
    r.tags = o.tags ∧ r.dicts = o.dicts ∧ o.dicts.length = 2 := by
  decide +kernel

/-! ## histories: repeated saves of one container -/

/-- `to_npz` is a function of the CURRENT contents of the container only: after ANY history of saves (to the
    same or other seednames, so with any files already on disk), in-place edits (select_bands, select_kpoints,
    direct edits of `.data`: same object identity, new content) and replaced files, a save followed by `from_npz`
    of the same seedname returns every file with the content it has NOW — provided the files of the container are
    written to different paths (the `mmn_ud` collision F15 excluded). -/
theorem save_after_any_history {A : Type} (ext : Name → Name) (hist : List (WOp A)) (s0 : WState A) (seed : Name)
    (hpaths : ((wrun ext hist s0).cont.map (fun p => npzPath ext seed p.1)).Nodup) :
    let s := wrun ext (hist ++ [WOp.save seed]) s0
    loadFrom ext seed (s.cont.map (·.1)) s.disk = s.cont.map (fun p => (p.1, p.2.content)) := by
  intro s
  simp only [s, wrun_append_save, loadFrom]
  rw [List.filterMap_map]
  exact filterMap_eq_map_of_some _ _ _ (fun p hp => by
    rw [Function.comp_apply, dirGet_saveTo ext seed _ _ hpaths p hp]; rfl)

/-- In particular what a save leaves for `from_npz` does not depend on what was saved before: two containers
    with the same current contents but different pasts (different disks, different object identities) load equal. -/
theorem save_independent_of_past {A : Type} (ext : Name → Name) (h1 h2 : List (WOp A)) (s1 s2 : WState A) (seed : Name)
    (hp1 : ((wrun ext h1 s1).cont.map (fun p => npzPath ext seed p.1)).Nodup)
    (hp2 : ((wrun ext h2 s2).cont.map (fun p => npzPath ext seed p.1)).Nodup)
    (hsame : (wrun ext h1 s1).cont.map (fun p => (p.1, p.2.content)) = (wrun ext h2 s2).cont.map (fun p => (p.1, p.2.content))) :
    let t1 := wrun ext (h1 ++ [WOp.save seed]) s1
    let t2 := wrun ext (h2 ++ [WOp.save seed]) s2
    loadFrom ext seed (t1.cont.map (·.1)) t1.disk = loadFrom ext seed (t2.cont.map (·.1)) t2.disk := by
  intro t1 t2
  have e1 := save_after_any_history ext h1 s1 seed hp1
  have e2 := save_after_any_history ext h2 s2 seed hp2
  simp only [wrun_append_save] at e1 e2
  simp only [t1, t2, wrun_append_save, e1, e2, hsame]

/-- Counterexample for the rule "skip a file whose object (identity) was already written to this path":
    save, edit the file in place (5 bands → 3, same identity), save again under the same seedname — the cached save
    leaves the stale 5 on disk, the real `to_npz` (which rewrites every file) gives 3. -/
theorem skip_same_identity_is_stale :
    let eig : Name := ['e', 'i', 'g']
    let seed : Name := ['x']
    let s0 : WState Nat := { cont := [(eig, ⟨7, 5⟩)], disk := [], cache := [] }
    let edit := fun (s : WState Nat) => wstep id s (WOp.edit eig 3)
    loadFrom id seed [eig] (saveCached id seed (edit (saveCached id seed s0))).disk = [(eig, 5)] ∧
    loadFrom id seed [eig] (wrun id [WOp.save seed, WOp.edit eig 3, WOp.save seed] s0).disk = [(eig, 3)] := by
  decide +kernel

/-! ## WannierData: file names -/

/-- For every key other than `symmetrizer`, `mmn_ud`, `mmn_du`, `from_npz` looks for exactly the file that
    `to_npz` wrote. -/
theorem wd_names_agree (ext : Name → Name) (key : Name) (h1 : key ≠ nSym) (h2 : key ≠ nUd) (h3 : key ≠ nDu) :
    wdReadName ext key = wdWriteName ext key := by
  simp [wdReadName, wdWriteName, h1, h2, h3]

/-- For `symmetrizer` it does when the symmetrizer's extension is "sawf". -/
theorem wd_symmetrizer_name (ext : Name → Name) (h : ext nSym = nSawf) :
    wdReadName ext nSym = wdWriteName ext nSym := by
  simp [wdReadName, wdWriteName, h]

/-- The keys `mmn_ud` / `mmn_du` hold MMN objects (extension "mmn"): `to_npz` writes them to the file of
    the plain `mmn` key (overwriting it) and `from_npz` looks for a different file — finding F15. -/
theorem wd_mmn_ud_name_mismatch (ext : Name → Name) (h : ext nUd = nMmn) (h' : ext nMmn = nMmn) :
    wdReadName ext nUd ≠ wdWriteName ext nUd ∧ wdWriteName ext nUd = wdWriteName ext nMmn := by
  refine ⟨?_, by simp [wdWriteName, h, h']⟩
  have e1 : wdReadName ext nUd = nUd := by
    unfold wdReadName
    rw [if_neg (by decide), if_pos (Or.inl rfl)]
  rw [e1, wdWriteName, h]
  decide

end WB.C19
