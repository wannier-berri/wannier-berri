/-
  C23 — Monkhorst-Pack mesh detection recovers the mesh: property theorems.

  `IsMesh N ks` : the list `ks` consists of points of the Γ-centred mesh `N = (N1,N2,N3)` with coordinates in
  `[0,1)` and contains every one of them — in ANY order and with ANY multiplicities.  All statements are for
  unbounded mesh sizes; the code's `limit_denominator(100)` (which restricts use to N ≤ 100) is outside the model.
-/
import WB.Lemmas.C23Select

namespace WB.C23

/-! ## detection: `get_mp_grid` -/

/-- T1 (general form, coordinates given modulo 1).  If the fractional parts of the k-points are points of the
    mesh `N` and every mesh point occurs, `get_mp_grid` returns `N` — for every order and multiplicity. -/
theorem mpGrid_mesh_mod1 (N : G3) (hN : GPos N) (ks : List K3)
    (hon : ∀ k ∈ ks, ∃ i j l, i < N.1 ∧ j < N.2.1 ∧ l < N.2.2 ∧
      (frac k.1, frac k.2.1, frac k.2.2) = meshPt N i j l)
    (hall : ∀ i j l, i < N.1 → j < N.2.1 → l < N.2.2 →
      ∃ k ∈ ks, (frac k.1, frac k.2.1, frac k.2.2) = meshPt N i j l) :
    mpGrid ks = .ok N := by
  have h : IsMesh N (ks.map fun k => (frac k.1, frac k.2.1, frac k.2.2)) :=
    ⟨List.forall_mem_map.2 hon, fun i j l hi hj hl => List.mem_map.2 (hall i j l hi hj hl)⟩
  have hallon : ks.all (onGridMod1 N) = true := List.all_eq_true.2 fun k hk => by
    obtain ⟨i, j, l, -, -, -, e⟩ := hon k hk
    show onGrid N (frac k.1, frac k.2.1, frac k.2.2) = true
    rw [e]; exact onGrid_meshPt N hN i j l
  unfold mpGrid
  rw [detectDir_mesh hN.1 _ (by rw [List.map_map]; exact h.fst hN),
    detectDir_mesh hN.2.1 _ (by rw [List.map_map]; exact h.snd hN),
    detectDir_mesh hN.2.2 _ (by rw [List.map_map]; exact h.trd hN)]
  exact if_pos hallon

/-- T1.  Given the points of any Γ-centred mesh `N` (coordinates in `[0,1)`) in any order, detection returns `N`. -/
theorem mpGrid_mesh (N : G3) (hN : GPos N) (ks : List K3) (h : IsMesh N ks) : mpGrid ks = .ok N := by
  have hfr : ∀ i j l, i < N.1 → j < N.2.1 → l < N.2.2 →
      (frac (meshPt N i j l).1, frac (meshPt N i j l).2.1, frac (meshPt N i j l).2.2) = meshPt N i j l := by
    intro i j l hi hj hl
    obtain ⟨⟨a0, a1⟩, ⟨b0, b1⟩, ⟨c0, c1⟩⟩ := meshPt_reduced N i j l hi hj hl
    rw [frac_of_reduced a0 a1, frac_of_reduced b0 b1, frac_of_reduced c0 c1]
  apply mpGrid_mesh_mod1 N hN ks
  · intro k hk
    obtain ⟨i, j, l, hi, hj, hl, rfl⟩ := h.1 k hk
    exact ⟨i, j, l, hi, hj, hl, hfr i j l hi hj hl⟩
  · intro i j l hi hj hl
    exact ⟨_, h.2 i j l hi hj hl, hfr i j l hi hj hl⟩

/-- soundness of a successful return of `get_mp_grid`: every k-point lies on the returned grid (modulo 1) -/
theorem mpGrid_ok_on_grid (ks : List K3) (g : G3) (h : mpGrid ks = .ok g) :
    ∀ k ∈ ks, onGridMod1 g k = true := by
  unfold mpGrid at h
  split at h
  · split at h
    · rename_i hall
      cases h
      exact List.all_eq_true.mp hall
    · cases h
  · cases h

/-! ## the grid guessed by `grid_from_kpoints(kpoints, grid=None)`: lcm of the denominators -/

/-- T2.  The lcm of the reduced denominators of the coordinates of a Γ-centred mesh is the mesh itself. -/
theorem gridOf_mesh (N : G3) (hN : GPos N) (ks : List K3) (h : IsMesh N ks) : gridOf ks = N := by
  have h' : IsMesh N (ks.map id) := by rwa [List.map_id]
  exact Prod.ext (lcmDen_mesh hN.1 (h'.fst hN)) (Prod.ext (lcmDen_mesh hN.2.1 (h'.snd hN)) (lcmDen_mesh hN.2.2 (h'.trd hN)))

/-! ## selection: `grid_from_kpoints(kpoints, grid=g)` -/

/-- T3a.  The selected indices are strictly increasing (loop order), hence pairwise different. -/
theorem select_increasing (g : G3) (ks : List K3) : (select g ks).Pairwise (· < ·) := by
  have h := (selectFrom_sublist g ks.zipIdx []).map (·.2)
  have e : ks.zipIdx.map (·.2) = List.range' 0 ks.length := List.zipIdx_map_snd 0 ks
  rw [e] at h
  exact List.Pairwise.sublist h List.pairwise_lt_range'

/-- T3b.  Every selected index points at a k-point that lies on the grid. -/
theorem select_on_grid (g : G3) (ks : List K3) (i : Nat) (hi : i ∈ select g ks) :
    ∃ k, ks[i]? = some k ∧ onGrid g k = true := by
  rw [select_eq] at hi
  obtain ⟨p, hp, rfl⟩ := List.mem_map.mp hi
  obtain ⟨h1, _, h3⟩ := selPairs_mem g ks p hp
  exact ⟨p.1, h1, h3⟩

/-- T3c (each mesh point exactly once).  Every on-grid k-point that occurs in the list — however many times —
    is selected through exactly one index. -/
theorem select_each_once (g : G3) (hg : GPos g) (ks : List K3) (k : K3) (hk : k ∈ ks) (hon : onGrid g k = true) :
    ∃! i, i ∈ select g ks ∧ ks[i]? = some k := by
  have hcov := selKints_covers g ks k hk hon
  obtain ⟨p, hp, hpe⟩ := List.mem_map.mp hcov
  obtain ⟨h1, _, h3⟩ := selPairs_mem g ks p hp
  have hpk : p.1 = k := kint_inj g hg _ _ h3 hon hpe
  refine ⟨p.2, ⟨List.mem_map.mpr ⟨p, hp, rfl⟩, hpk ▸ h1⟩, ?_⟩
  rintro i ⟨hi, hik⟩
  rw [select_eq] at hi
  obtain ⟨q, hq, rfl⟩ := List.mem_map.mp hi
  obtain ⟨hq1, _, _⟩ := selPairs_mem g ks q hq
  have hqk : q.1 = k := by rw [hq1] at hik; exact Option.some.inj hik
  have : q = p := by
    apply List.inj_on_of_nodup_map (selKints_nodup g ks) hq hp
    show kint g q.1 = kint g p.1
    rw [hqk, hpk]
  rw [this]

/-- T3d (complete mesh accepted).  If the list (reduced coordinates; duplicates and off-grid points allowed)
    contains every point of the mesh `g`, the selection succeeds and has exactly `N1·N2·N3` entries. -/
theorem selectGrid_complete (g : G3) (hg : GPos g) (ks : List K3) (hr : ∀ k ∈ ks, Reduced k)
    (hall : ∀ i j l, i < g.1 → j < g.2.1 → l < g.2.2 → meshPt g i j l ∈ ks) :
    selectGrid g ks = .ok (select g ks) ∧ (select g ks).length = numGrid g := by
  -- the box is contained in the set of selected triples
  have h : (select g ks).length = numGrid g := by
    apply le_antisymm (length_select_le g hg ks hr)
    rw [length_select_eq_card, ← card_box]
    refine Finset.card_le_card fun x hx => List.mem_toFinset.2 ?_
    obtain ⟨⟨a0, a1⟩, ⟨b0, b1⟩, ⟨c0, c1⟩⟩ := (mem_box g x).1 hx
    have := (mem_selKints_iff_meshPt_mem g hg ks _ _ _).2
      (hall x.1.toNat x.2.1.toNat x.2.2.toNat (by omega) (by omega) (by omega))
    rwa [Int.toNat_of_nonneg a0, Int.toNat_of_nonneg b0, Int.toNat_of_nonneg c0] at this
  refine ⟨?_, h⟩
  unfold selectGrid
  simp only [h, lt_irrefl, if_false]

/-- T3e (incomplete mesh rejected).  If some point of the mesh `g` is missing from the list (reduced
    coordinates), the selection raises "Some k-points are missing" — whatever else the list contains. -/
theorem selectGrid_missing (g : G3) (hg : GPos g) (ks : List K3) (hr : ∀ k ∈ ks, Reduced k)
    (i j l : Nat) (hi : i < g.1) (hj : j < g.2.1) (hl : l < g.2.2) (hmiss : meshPt g i j l ∉ ks) :
    selectGrid g ks = .missing := by
  -- the selected triples are a proper subset of the box: `(i, j, l)` is missing
  have h : (select g ks).length < numGrid g := by
    rw [length_select_eq_card, ← card_box]
    refine Finset.card_lt_card ⟨selKints_subset_box g hg ks hr, fun hsub => ?_⟩
    have hin : ((i : Int), (j : Int), (l : Int)) ∈ box g := by
      rw [mem_box]; simp only; omega
    exact hmiss ((mem_selKints_iff_meshPt_mem g hg ks i j l).1 (List.mem_toFinset.1 (hsub hin)))
  unfold selectGrid
  simp only [h, if_true]

/-- T3f.  On reduced coordinates the branch "Some k-points are taken twice" is unreachable. -/
theorem selectGrid_never_twice (g : G3) (hg : GPos g) (ks : List K3) (hr : ∀ k ∈ ks, Reduced k) :
    selectGrid g ks ≠ .twice := by
  have h := length_select_le g hg ks hr
  rw [selectGrid]
  split_ifs with h1 h2
  · exact SelRes.noConfusion
  · exact absurd h (by omega)
  · exact SelRes.noConfusion

/-- the hypothesis "coordinates reduced to [0,1)" is needed: `k = 1` and `k = 0` are counted as different points
    (the integer triple is not reduced modulo the grid), so a complete mesh plus the point `(1,0,0)` is rejected. -/
theorem unreduced_point_taken_twice :
    selectGrid (2, 1, 1) [(0, 0, 0), (1/2, 0, 0), (1, 0, 0)] = .twice := by decide +kernel

/-! ## `grid_from_kpoints(kpoints, grid=None)`: detection, then selection -/

/-- T4.  `grid_from_kpoints(kpoints)` on the points of any Γ-centred mesh, any order, returns the mesh. -/
theorem gridFromKpoints_mesh (N : G3) (hN : GPos N) (ks : List K3) (h : IsMesh N ks) :
    gridFromKpoints ks = .ok N := by
  unfold gridFromKpoints
  rw [gridOf_mesh N hN ks h, (selectGrid_complete N hN ks (isMesh_reduced N ks h) h.2).1]

/-- T4'.  Soundness of a successful return: whenever `grid_from_kpoints` returns a grid for reduced k-points, the list
    really contains every point of that grid. -/
theorem gridFromKpoints_ok_complete (ks : List K3) (g : G3) (hg : GPos g) (hr : ∀ k ∈ ks, Reduced k)
    (h : gridFromKpoints ks = .ok g) :
    ∀ i j l, i < g.1 → j < g.2.1 → l < g.2.2 → meshPt g i j l ∈ ks := by
  intro i j l hi hj hl
  by_contra hmiss
  unfold gridFromKpoints at h
  split at h
  · cases h
    rename_i sel hsel
    rw [selectGrid_missing _ hg ks hr i j l hi hj hl hmiss] at hsel
    cases hsel
  · cases h
  · cases h

/-! ## non-vacuity and concrete instances -/

/-- a shuffled 2×1×3 mesh with a repeated point satisfies `IsMesh` -/
example : IsMesh (2, 1, 3)
    [(1/2, 0, 2/3), (0, 0, 0), (1/2, 0, 0), (0, 0, 2/3), (0, 0, 1/3), (1/2, 0, 1/3), (0, 0, 0)] :=
  (isMesh_iff_bounded _ _).2 (by decide +kernel)

example : mpGrid [(1/2, 0, 2/3), (0, 0, 0), (1/2, 0, 0), (0, 0, 2/3), (0, 0, 1/3), (1/2, 0, 1/3), (0, 0, 0)]
    = .ok (2, 1, 3) := by decide +kernel
example : gridFromKpoints [(1/2, 0, 2/3), (0, 0, 0), (1/2, 0, 0), (0, 0, 2/3), (0, 0, 1/3), (1/2, 0, 1/3), (0, 0, 0)]
    = .ok (2, 1, 3) := by decide +kernel
example : selectGrid (2, 1, 3) [(1/2, 0, 2/3), (0, 0, 0), (1/2, 0, 0), (0, 0, 2/3), (0, 0, 1/3), (1/2, 0, 1/3), (0, 0, 0)]
    = .ok [0, 1, 2, 3, 4, 5] := by decide +kernel
/-- one point removed: rejected -/
example : selectGrid (2, 1, 3) [(1/2, 0, 2/3), (0, 0, 0), (1/2, 0, 0), (0, 0, 2/3), (0, 0, 1/3), (0, 0, 0)]
    = .missing := by decide +kernel
/-- selecting the coarser 1×1×3 sub-mesh out of the 2×1×3 one -/
example : selectGrid (1, 1, 3) [(1/2, 0, 2/3), (0, 0, 0), (1/2, 0, 0), (0, 0, 2/3), (0, 0, 1/3), (1/2, 0, 1/3)]
    = .ok [1, 3, 4] := by decide +kernel
/-- a list that is not a mesh: smallest non-zero fraction 2/5 -/
example : mpGrid [(0, 0, 0), (2/5, 0, 0), (4/5, 0, 0)] = .numNotOne := by decide +kernel
example : mpGrid [(0, 0, 0), (1/2, 0, 0), (3/4, 0, 0)] = .offGrid := by decide +kernel

end WB.C23
