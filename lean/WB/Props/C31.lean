/-
  C31 — property theorems: the finite-difference stencil of `Derivative3D` / `SystemKP`.
  (helper lemmas: WB/Lemmas/C31.lean, C31Poly.lean for the stencil; C31Shells.lean, C31Neg.lean, C31Find.lean for `find_shells`)

  Setting.  `bs` = a stencil (weight, reduced displacement, Cartesian displacement);
  `GoodStencil bs` = closed under b → −b with equal weights, and Σ_b w_b b_a b_c = δ_ac exactly (B1 of PRB 56, 12847).
  A function value is one matrix entry of the Hamiltonian; `K` is any field of characteristic 0 (ℝ, ℂ, ℚ).
-/
import WB.Lemmas.C31Poly
import WB.Lemmas.C31Find
import Mathlib.Tactic.FieldSimp

namespace WB.C31

variable {K : Type} [Field K] [CharZero K]

/-- the idealised stencil: closed under `b → −b` (with the same weight) and the completeness relation (B1)
    `Σ_b w_b b_a b_c = δ_ac` exactly.  What `find_shells` guarantees is T4b (B1 up to the tolerance and the dropped shells);
    T4c gives the deviation this causes. -/
structure GoodStencil (bs : List (BPoint K)) : Prop where
  neg_closed : (bs.map BPoint.neg).Perm bs
  b1 : ∀ a c, mom2 bs a c = if a = c then 1 else 0

/-! ## T1  exactness up to degree 2 and the explicit degree-3 error -/

/-- T1 (without B1).  The main expansion without the completeness relation: for a stencil closed under negation,
    `Σ_b w_b f(k+b) b_e = Σ_a A1_a M2_ae + Σ A3_acd M4_acde`. -/
theorem fd_odd_expansion_no_b1 {K : Type} [Field K] [CharZero K] (bs : List (BPoint K))
    (hneg : (bs.map BPoint.neg).Perm bs) (f : V3 K → K) (k : V3 K)
    (Ev : V3 K → K) (hEv : ∀ b, Ev (fun a => -b a) = Ev b)
    (A1 : Fin 3 → K) (A3 : Fin 3 → Fin 3 → Fin 3 → K)
    (hf : ∀ p ∈ bs, f (vadd k p.bred) = Ev p.bcart + sum3 (fun a => A1 a * p.bcart a)
        + sum3 (fun a => sum3 (fun c => sum3 (fun d => A3 a c d * p.bcart a * p.bcart c * p.bcart d))))
    (e : Fin 3) :
    deriv3D f k e bs = sum3 (fun a => A1 a * mom2 bs a e)
      + sum3 (fun a => sum3 (fun c => sum3 (fun d => A3 a c d * mom4 bs a c d e))) := by
  rw [deriv3D_expansion bs hneg f k Ev (cub3 A3) hEv A1 hf e, mom_cub3]

/-- T1 (general form, any function).  If along the stencil
      f(k + b) = Ev(b) + Σ_a A1_a b_a + Σ_acd A3_acd b_a b_c b_d        with Ev EVEN (constant, quadratic, quartic, … parts)
    then the stencil returns the linear coefficient (= the gradient) plus the fourth-moment term:
      Σ_b w_b f(k+b) b_e = A1_e + Σ_acd A3_acd M4_acde . -/
theorem fd_odd_expansion (bs : List (BPoint K)) (hs : GoodStencil bs) (f : V3 K → K) (k : V3 K)
    (Ev : V3 K → K) (hEv : ∀ b, Ev (fun a => -b a) = Ev b)
    (A1 : Fin 3 → K) (A3 : Fin 3 → Fin 3 → Fin 3 → K)
    (hf : ∀ p ∈ bs, f (vadd k p.bred) = Ev p.bcart + sum3 (fun a => A1 a * p.bcart a)
        + sum3 (fun a => sum3 (fun c => sum3 (fun d => A3 a c d * p.bcart a * p.bcart c * p.bcart d))))
    (e : Fin 3) :
    deriv3D f k e bs = A1 e + sum3 (fun a => sum3 (fun c => sum3 (fun d => A3 a c d * mom4 bs a c d e))) := by
  rw [fd_odd_expansion_no_b1 bs hs.neg_closed f k Ev hEv A1 A3 hf e]
  simp only [hs.b1, sum3_mul_ite]

/-- T1a.  Polynomial Hamiltonian of degree ≤ 3 in tensor form, either k-vector convention
    (`A = recip_lattice, C = 1` for Cartesian; `A = 1, C = recip_lattice⁻¹` for reduced):
    numerical first derivative = analytic Cartesian gradient + the k-independent error `Σ_b w_b T3(C b) b_e`. -/
theorem fd_cubic_error (bs : List (BPoint K)) (hs : GoodStencil bs) (A C : Fin 3 → Fin 3 → K)
    (hAC : ∀ p ∈ bs, toCart A p.bred = toCart C p.bcart)
    (c0 : K) (g : Fin 3 → K) (h : Fin 3 → Fin 3 → K) (t : Fin 3 → Fin 3 → Fin 3 → K) (k : V3 K) (e : Fin 3) :
    der1 bs (fun x => cubic c0 g h t (toCart A x)) k e = gradC C g h t (toCart A k) e + err1 bs C t e := by
  unfold der1
  rw [deriv3D_expansion bs hs.neg_closed _ k (fun b => evenPart c0 g h t (toCart A k) (toCart C b))
    (fun b => cub3 t (toCart C b)) (fun b => by rw [toCart_neg, evenPart_neg]) (gradC C g h t (toCart A k))
    (fun p hp => by rw [toCart_vadd, hAC p hp, cubic_shift, sum3_mul_toCart]; rfl) e]
  simp only [hs.b1, sum3_mul_ite]
  rfl

/-- T1b.  Exact for every polynomial of degree ≤ 2. -/
theorem fd_exact_quadratic (bs : List (BPoint K)) (hs : GoodStencil bs) (A C : Fin 3 → Fin 3 → K)
    (hAC : ∀ p ∈ bs, toCart A p.bred = toCart C p.bcart)
    (c0 : K) (g : Fin 3 → K) (h : Fin 3 → Fin 3 → K) (k : V3 K) (e : Fin 3) :
    der1 bs (fun x => cubic c0 g h (fun _ _ _ => 0) (toCart A x)) k e
      = gradC C g h (fun _ _ _ => 0) (toCart A k) e := by
  rw [fd_cubic_error bs hs A C hAC, err1_zero, add_zero]

omit [CharZero K] in
/-- T1c.  In the Cartesian convention (`C = 1`) the error term is the contraction with the fourth moment
    `Σ_acd t_acd M4_acde`  (of order dk²). -/
theorem err1_cartesian (bs : List (BPoint K)) (t : Fin 3 → Fin 3 → Fin 3 → K) (e : Fin 3) :
    err1 bs (fun a c => if a = c then 1 else 0) t e
      = sum3 (fun a => sum3 (fun c => sum3 (fun d => t a c d * mom4 bs a c d e))) := by
  unfold err1
  simp only [toCart_one]
  exact mom_cub3 bs t e

/-- a stencil closed under negation has vanishing odd moments -/
theorem odd_moments_vanish (bs : List (BPoint K)) (hneg : (bs.map BPoint.neg).Perm bs) (a c d : Fin 3) :
    mom1 bs a = 0 ∧ mom3 bs a c d = 0 :=
  ⟨mom_odd_zero _ (fun b => by ring) bs hneg, mom_odd_zero _ (fun b => by ring) bs hneg⟩

/-! ## T2  Hermiticity is preserved -/

omit [CharZero K] in
/-- T2.  With real weights and real displacement vectors the stencil commutes with conjugation; hence if
    `H_mn(k') = conj H_nm(k')` for all k', the numerical derivative satisfies `D_mn = conj D_nm`. -/
theorem fd_hermitian (conj : K →+* K) (bs : List (BPoint K))
    (hreal : ∀ p ∈ bs, conj p.w = p.w ∧ ∀ a, conj (p.bcart a) = p.bcart a)
    (Hmn Hnm : V3 K → K) (hH : ∀ x, Hmn x = conj (Hnm x)) (k : V3 K) (e : Fin 3) :
    der1 bs Hmn k e = conj (der1 bs Hnm k e) := by
  unfold der1
  rw [deriv3D_conj conj Hnm k e bs hreal]
  exact deriv3D_congr _ _ hH k e bs

omit [CharZero K] in
/-- T2'.  The same for the iterated derivatives. -/
theorem fd_hermitian_iterated (conj : K →+* K) (bs : List (BPoint K))
    (hreal : ∀ p ∈ bs, conj p.w = p.w ∧ ∀ a, conj (p.bcart a) = p.bcart a)
    (Hmn Hnm : V3 K → K) (hH : ∀ x, Hmn x = conj (Hnm x)) (k : V3 K) (e1 e2 e3 : Fin 3) :
    der2 bs Hmn k e1 e2 = conj (der2 bs Hnm k e1 e2) ∧ der3 bs Hmn k e1 e2 e3 = conj (der3 bs Hnm k e1 e2 e3) := by
  have h2 : ∀ x, der2 bs Hmn x e1 e2 = conj (der2 bs Hnm x e1 e2) := fun x =>
    fd_hermitian conj bs hreal _ _ (fun y => fd_hermitian conj bs hreal Hmn Hnm hH y e1) x e2
  exact ⟨h2 k, fd_hermitian conj bs hreal _ _ h2 k e3⟩

/-! ## T3  iterating the stencil gives the 2nd and 3rd derivatives -/

/-- T3a.  For a polynomial of degree ≤ 3 the numerical SECOND derivative (stencil of the numerical first
    derivative) is exactly the analytic Cartesian Hessian: the error of the first stage is k-independent and is
    annihilated by the second stage. -/
theorem fd_second_exact_cubic (bs : List (BPoint K)) (hs : GoodStencil bs) (A C : Fin 3 → Fin 3 → K)
    (hAC : ∀ p ∈ bs, toCart A p.bred = toCart C p.bcart)
    (c0 : K) (g : Fin 3 → K) (h : Fin 3 → Fin 3 → K) (t : Fin 3 → Fin 3 → Fin 3 → K) (k : V3 K) (e1 e2 : Fin 3) :
    der2 bs (fun x => cubic c0 g h t (toCart A x)) k e1 e2 = hessC C h t (toCart A k) e1 e2 := by
  -- the first stage is `Σ_a C_{e1 a} ∂_a p + const`; each `∂_a p` is a polynomial of degree 2, on which the second
  -- stage is exact, and the constant is annihilated
  unfold der2
  simp only [fd_cubic_error bs hs A C hAC, gradC, cubicGrad_eq_cubic]
  simp only [sum3, deriv3D_add, deriv3D_smul, deriv3D_const, (odd_moments_vanish bs hs.neg_closed e2 e2 e2).1]
  simp only [← der1.eq_1, fd_cubic_error bs hs A C hAC, err1_zero, gradC, cubicGrad_of_cubicGrad, hessC, sum3]
  ring

/-- T3b.  … and the numerical THIRD derivative is exactly the analytic third-derivative tensor. -/
theorem fd_third_exact_cubic (bs : List (BPoint K)) (hs : GoodStencil bs) (A C : Fin 3 → Fin 3 → K)
    (hAC : ∀ p ∈ bs, toCart A p.bred = toCart C p.bcart)
    (c0 : K) (g : Fin 3 → K) (h : Fin 3 → Fin 3 → K) (t : Fin 3 → Fin 3 → Fin 3 → K) (k : V3 K) (e1 e2 e3 : Fin 3) :
    der3 bs (fun x => cubic c0 g h t (toCart A x)) k e1 e2 e3 = d3C C t e1 e2 e3 := by
  unfold der3
  simp only [fd_second_exact_cubic bs hs A C hAC, hessC, cubicHess_eq_cubic]
  simp only [sum3, deriv3D_add, deriv3D_smul]
  simp only [← der1.eq_1, fd_cubic_error bs hs A C hAC, err1_zero, gradC, cubicGrad_of_cubicHess, d3C, sum3]
  ring

/-! ## T4  `find_shells` / `check_B1`: what the derivative theorems need holds whenever the function returns

  `par` (= `check_parallel`) and `kernel` (= the SVD solve of `check_B1`, `none` when a singular value is below 1e-7) are
  ARBITRARY functions; `nrm` (= `np.linalg.norm`) is any function with `nrm (−v) = nrm v`; `th` = 1e-8 (find_degen),
  `tol` = 1e-5, `eps` = 1e-8, `n` = isearch, `nshells` = 50.  `findShells … = none` models the `TypeError` of the code
  when the loop ends with `weights = None` (the known finding). -/

/-- T4a.  The table of shells used by the loop is the list of runs of the sorted lengths (`find_degen`), and every
    shell is closed under negation. -/
theorem shells_closed_under_negation (nrm : V3 Rat → Rat) (hnrm : ∀ v : V3 Rat, nrm (fun c => -v c) = nrm v)
    (basis : Fin 3 → Fin 3 → Rat) (n : Nat) (th : Rat) (hth : 0 ≤ th) (ns k : Nat) :
    tableFn (shellTableList nrm basis n th ns) k = (if k ≤ ns then shellVecs nrm basis n th k else []) ∧
    ((tableFn (shellTableList nrm basis n th ns) k).map negI).Perm (tableFn (shellTableList nrm basis n th ns) k) := by
  have h1 : tableFn (shellTableList nrm basis n th ns) k = if k ≤ ns then shellVecs nrm basis n th k else [] := by
    unfold tableFn shellTableList
    simp only [blockIdxAll_eq]
    by_cases hk : k ≤ ns
    · rw [if_pos hk, List.getD_eq_getElem _ _ (by simp; omega)]
      simp only [List.getElem_map, List.getElem_range]
      exact filter_zip_map (List.range (sortedBox nrm basis n).length) _
        (fun p => (sortedBox nrm basis n).getD p (0, 0, 0)) k
    · rw [if_neg hk]
      rw [List.getD_eq_default _ _ (by simp; omega)]
  refine ⟨h1, ?_⟩
  rw [h1]
  split
  · exact shellVecs_neg_perm nrm hnrm basis n th hth k
  · simp

/-- T4b (soundness of `find_shells`).  Whenever it returns a stencil `st`:
    (1) `st` is the per-vector expansion (with the `abs(w) > eps` filter) of shells `sel` with the kernel's weights `ws`,
        and these passed the guard  ‖Σ_s w_s M_s − 1‖_F ≤ tol  that `check_B1` evaluates before returning;
    (2) the stencil handed to `Derivative3D` is closed under b → −b with equal weights (a permutation of itself);
    (3) its second moment satisfies the completeness relation up to the tolerance, entrywise:
        (Σ_b w_b b_a b_c + [shells dropped by the filter] − δ_ac)² ≤ tol². -/
theorem findShells_sound (par : List Nat → Nat → Bool) (kernel : List Nat → Option (List Rat)) (nrm : V3 Rat → Rat)
    (hnrm : ∀ v : V3 Rat, nrm (fun c => -v c) = nrm v)
    (basis : Fin 3 → Fin 3 → Rat) (n : Nat) (th tol eps : Rat) (hth : 0 ≤ th) (nshells : Nat) (dk : Rat)
    (st : List (Rat × I3)) (h : findShells par kernel nrm basis n th tol eps nshells = some st) :
    ∃ (sel : List Nat) (ws : List Rat),
      kernel sel = some ws ∧ st = expandF (tableFn (shellTableList nrm basis n th nshells)) eps sel ws ∧
      resid2 (fun k => shellMat basis (tableFn (shellTableList nrm basis n th nshells) k)) sel ws ≤ tol * tol ∧
      ((toStencil basis dk st).map BPoint.neg).Perm (toStencil basis dk st) ∧
      ∀ a c, (mom2 (toStencil basis dk st) a c
                + droppedEye (fun k => shellMat basis (tableFn (shellTableList nrm basis n th nshells) k)) eps sel ws a c
                - delta3 a c)
             * (mom2 (toStencil basis dk st) a c
                + droppedEye (fun k => shellMat basis (tableFn (shellTableList nrm basis n th nshells) k)) eps sel ws a c
                - delta3 a c)
             ≤ tol * tol := by
  unfold findShells at h
  simp only at h
  split at h
  · rename_i sel ws hloop
    obtain ⟨hk, hr⟩ := shellLoop_spec par kernel _ tol _ [] sel ws hloop
    simp only [Option.some.injEq] at h
    subst h
    refine ⟨sel, ws, hk, rfl, hr, ?_, ?_⟩
    · rw [toStencil_neg]
      unfold toStencil
      exact (expandF_neg_perm _ (fun k => (shells_closed_under_negation nrm hnrm basis n th hth nshells k).2) eps sel ws).map _
    · intro a c
      rw [mom2_expandF, kept_add_dropped]
      exact le_trans (entry_sq_le_resid2 _ sel ws a c) hr
  · simp at h

/-- T4c.  Consequence for the numerical derivative with the stencil `find_shells` returned (Rat): the deviation from
    `A1_e + Σ A3 M4` is exactly `Σ_a A1_a (M2_ae − δ_ae)`, and `M2 + [shells dropped by the filter] − δ` is bounded by T4b(3). -/
theorem fd_with_returned_stencil (bs : List (BPoint Rat)) (hneg : (bs.map BPoint.neg).Perm bs) (f : V3 Rat → Rat)
    (k : V3 Rat) (Ev : V3 Rat → Rat) (hEv : ∀ b, Ev (fun a => -b a) = Ev b)
    (A1 : Fin 3 → Rat) (A3 : Fin 3 → Fin 3 → Fin 3 → Rat)
    (hf : ∀ p ∈ bs, f (vadd k p.bred) = Ev p.bcart + sum3 (fun a => A1 a * p.bcart a)
        + sum3 (fun a => sum3 (fun c => sum3 (fun d => A3 a c d * p.bcart a * p.bcart c * p.bcart d))))
    (e : Fin 3) :
    deriv3D f k e bs - (A1 e + sum3 (fun a => sum3 (fun c => sum3 (fun d => A3 a c d * mom4 bs a c d e))))
      = sum3 (fun a => A1 a * (mom2 bs a e - delta3 a e)) := by
  rw [fd_odd_expansion_no_b1 bs hneg f k Ev hEv A1 A3 hf e]
  rw [add_sub_add_right_eq_sub]
  have := sum3_mul_ite A1 e
  simp only [sum3, delta3] at this ⊢
  linear_combination this

/-- non-vacuity of T4b: the model of `find_shells` does return for suitable kernels (here: any lattice, a kernel that
    answers `[0]` and a generous tolerance, so that the guard 3 ≤ tol² holds whatever the shells are; the weight 0 fails
    `abs(w) > eps` and is dropped, so the returned stencil is empty: this shows `isSome` only); the
    correspondence run exercises the realistic instances (exact weights such as 128 for the cubic basis 1/16) -/
example (nrm : V3 Rat → Rat) (basis : Fin 3 → Fin 3 → Rat) :
    (findShells (fun _ _ => true) (fun _ => some [0]) nrm basis 3 0 10 0 1).isSome = true := by
  have hc : checkB1 (fun _ => some [0])
      (fun k => shellMat basis (tableFn (shellTableList nrm basis 3 0 1) k)) 10 [1]
      = (true, true, some [0]) := by
    simp [checkB1, resid2, checkEye, delta3, fin3]
    norm_num
  simp [findShells, shellLoop, hc]

/-! ## non-vacuity: the simple-cubic stencil (what `find_shells` returns for the cubic reciprocal lattice that `SystemKP(kmax=…)` sets up) -/

/-- `b = ±d e_i`, `w = 1/(2d²)` -/
def cubicStencil (d : K) : List (BPoint K) :=
  let v (i : Fin 3) (s : K) : V3 K := fun a => if a = i then s else 0
  [⟨1 / (2 * d * d), v 0 d, v 0 d⟩, ⟨1 / (2 * d * d), v 0 (-d), v 0 (-d)⟩,
   ⟨1 / (2 * d * d), v 1 d, v 1 d⟩, ⟨1 / (2 * d * d), v 1 (-d), v 1 (-d)⟩,
   ⟨1 / (2 * d * d), v 2 d, v 2 d⟩, ⟨1 / (2 * d * d), v 2 (-d), v 2 (-d)⟩]

theorem cubicStencil_good (d : K) (hd : d ≠ 0) : GoodStencil (cubicStencil d) where
  neg_closed := by
    have hneg : ∀ (w : K) (i : Fin 3) (s : K),
        BPoint.neg (⟨w, (fun a => if a = i then s else 0), (fun a => if a = i then s else 0)⟩ : BPoint K)
          = ⟨w, (fun a => if a = i then -s else 0), (fun a => if a = i then -s else 0)⟩ := by
      intro w i s
      simp only [BPoint.neg, BPoint.mk.injEq, true_and]
      constructor <;> (funext a; split <;> simp)
    simp only [cubicStencil, List.map_cons, List.map_nil, hneg, neg_neg]
    exact (List.Perm.swap _ _ _).trans
      (List.Perm.cons _ (List.Perm.cons _ ((List.Perm.swap _ _ _).trans
        (List.Perm.cons _ (List.Perm.cons _ (List.Perm.swap _ _ _))))))
  b1 := by
    intro a c
    -- each pair `±d e_i` contributes `2 w d² [a = i][c = i]`, and `Σ_i [a = i][c = i] = [a = c]`
    have key : ∀ (s : K) (i : Fin 3), (if a = i then s else 0) * (if c = i then s else 0)
        = s * s * ((if a = i then 1 else 0) * (if i = c then 1 else 0)) := by
      intro s i; simp only [@eq_comm _ i c]; split <;> split <;> ring
    have hsum := sum3_mul_ite (fun i => if a = i then (1 : K) else 0) c
    simp only [sum3] at hsum
    have hw : 1 / (2 * d * d) * (d * d) * 2 = 1 := by field_simp
    simp only [cubicStencil, mom2, mom, mul_assoc]
    rw [key d 0, key (-d) 0, key d 1, key (-d) 1, key d 2, key (-d) 2]
    linear_combination (1 / (2 * d * d) * (d * d) * 2) * hsum + (if a = c then 1 else 0) * hw

/-- with `A = C = 1` (reciprocal lattice = unit cube) the hypothesis `hAC` holds for the cubic stencil -/
example (d : K) : ∀ p ∈ cubicStencil d,
    toCart (fun a c => if a = c then (1 : K) else 0) p.bred = toCart (fun a c => if a = c then (1 : K) else 0) p.bcart := by
  intro p hp
  simp only [cubicStencil, List.mem_cons, List.not_mem_nil, or_false] at hp
  rcases hp with rfl | rfl | rfl | rfl | rfl | rfl <;> rfl

end WB.C31
