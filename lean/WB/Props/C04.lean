/-
  C04 — periodicity in k and gauge independence: property theorems.

  T1  periodicity: the k-point bookkeeping (`% 1`, `k_to_1BZ`) and the Fourier phase `exp(2πi k·R)` are unchanged by
      k → k+G for integer G; likewise any N-th root of unity on an N-point FFT grid.  Everything evaluated at k is a
      function of these phases (H(k), every Xbar), hence periodic.
  T2  `tr(U†XU) = tr X`, and products `A_nl B_ln` of covariant blocks are covariant, for unitary inner/outer rotations;
      T2c: chains of any number of factors (`FormulaProduct`), their Hermitian completion, and the counterexample with
      the last factor transposed.
  T3  the generalised derivative `Matrix_GenDer_ln` (nn and ln blocks) is covariant; `D_H` is covariant under any
      unitary that mixes only states of exactly equal energy; the complete `Omega.nn` (internal AND external terms)
      is covariant and its trace gauge invariant.
  T4  one soundness theorem for the expression syntax `CExpr` of Model/C04.lean, and the formula classes as instances.
  Then: band groups must be closed under the gauge's mixing (with a counterexample), and the degenerate groups of
  `Data_K.degen` with the random gauge.
  Oracle only (no theorem): SpinVelocity/SpinOmega, the `*_test`/FormulaSymmetric classes, SDCT, eigh, near-degenerate
  groups, and the quarter-grid phase `phase4`/`iPow` of the model.
-/
import WB.Lemmas.C04Expr
import WB.Props.C15
import Mathlib.Data.Matrix.Block
import Mathlib.Algebra.Order.Floor.Ring
import Mathlib.Data.Rat.Floor
import Mathlib.Analysis.SpecialFunctions.Trigonometric.Basic

namespace WB.C04
open Matrix

/-! ## T1: periodicity -/

theorem mod1_eq_fract (x : ℚ) : mod1 x = Int.fract x := rfl

theorem mod1_periodic (x : ℚ) (G : ℤ) : mod1 (x + G) = mod1 x := by
  rw [mod1_eq_fract, mod1_eq_fract, Int.fract_add_intCast]

theorem mod1_range (x : ℚ) : 0 ≤ mod1 x ∧ mod1 x < 1 := by
  rw [mod1_eq_fract]; exact ⟨Int.fract_nonneg x, Int.fract_lt_one x⟩

/-- `Data_K.kpoints_all` reports the same point for `dK` and `dK + G` -/
theorem kpointAll_periodic (p dK : ℚ) (G : ℤ) : kpointAll p (dK + G) = kpointAll p dK := by
  unfold kpointAll; rw [← add_assoc, mod1_periodic]

/-- `SystemKP.k_to_1BZ` maps `k` and `k + G` to the same point of `[-1/2, 1/2)` -/
theorem kTo1BZ_periodic (k : ℚ) (G : ℤ) : kTo1BZ (k + G) = kTo1BZ k := by
  unfold kTo1BZ; rw [add_right_comm, mod1_periodic]

theorem kTo1BZ_range (k : ℚ) : -(1/2) ≤ kTo1BZ k ∧ kTo1BZ k < 1/2 := by
  obtain ⟨h1, h2⟩ := mod1_range (k + 1/2)
  exact ⟨neg_le_sub_iff_le_add.2 (le_add_of_nonneg_left h1), sub_lt_iff_lt_add.2 (by rwa [add_halves])⟩

/-- `k_to_1BZ` only shifts by an integer (so a periodic Hamiltonian is evaluated at an equivalent point) -/
theorem kTo1BZ_shift (k : ℚ) : ∃ G : ℤ, kTo1BZ k = k - G :=
  ⟨⌊k + 1/2⌋, by unfold kTo1BZ; rw [mod1_eq_fract, Int.fract]; ring⟩

/-- **T1.**  The Fourier phase of every lattice vector is unchanged by a reciprocal lattice vector:
    `exp(2πi (k+G)·R) = exp(2πi k·R)` for integer `G`, `R` (reduced coordinates). -/
theorem phase_periodic (k : Fin 3 → ℝ) (G R : Fin 3 → ℤ) :
    Complex.exp (2 * Real.pi * Complex.I * ∑ i, ((k i : ℂ) + (G i : ℂ)) * (R i : ℂ))
      = Complex.exp (2 * Real.pi * Complex.I * ∑ i, (k i : ℂ) * (R i : ℂ)) := by
  -- `G·R` is an integer, and `exp` has period `2πi`
  have h : (∑ i, (G i : ℂ) * (R i : ℂ)) = ((∑ i, G i * R i : ℤ) : ℂ) := by
    rw [Int.cast_sum]; exact Finset.sum_congr rfl fun i _ => (Int.cast_mul _ _).symm
  simp only [add_mul, Finset.sum_add_distrib, mul_add]
  rw [h, mul_comm _ ((_ : ℤ) : ℂ), Complex.exp_add, Complex.exp_int_mul_two_pi_mul_I, mul_one]

/-- the same on an `N`-point FFT grid, for any field: the phase `ζ^(m·r)` of grid point `m` and lattice vector `r` -/
theorem root_of_unity_periodic {K : Type} [Field K] (ζ : K) (N : ℕ) (hζ : ζ ^ N = 1) (m t r : ℤ) (h0 : ζ ≠ 0) :
    ζ ^ ((m + N * t) * r) = ζ ^ (m * r) := by
  rw [add_mul, zpow_add₀ h0, mul_assoc, zpow_mul _ (N : ℤ), zpow_natCast, hζ, one_zpow, mul_one]

/-- with `phase_periodic` (or `root_of_unity_periodic`) supplying the hypothesis: `H(k+G) = H(k)`, likewise every `Xbar` -/
theorem fourier_sum_periodic {K : Type} [Field K] (Rs : List (Fin 3 → ℤ)) (X : (Fin 3 → ℤ) → K)
    (ph ph' : (Fin 3 → ℤ) → K) (h : ∀ R ∈ Rs, ph' R = ph R) :
    (Rs.map fun R => ph' R * X R).sum = (Rs.map fun R => ph R * X R).sum := by
  congr 1
  apply List.map_congr_left
  intro R hR; rw [h R hR]

section gauge
variable {K : Type} [Field K] [StarRing K] {n l : ℕ}

/-! ## T2: traces and products -/

/-- **T2a.** `Formula_ln.trace` of a covariant inner block is invariant under a unitary rotation of the inner states -/
theorem trace_gauge_invariant (U X : Matrix (Fin n) (Fin n) K) (hU : U * Uᴴ = 1) :
    (Uᴴ * X * U).trace = X.trace := trace_cj U X hU

/-- **T2b.** products `A_nl B_ln` (inner `n`, outer `l`) transform with the inner rotation only: the outer unitary
    `W` cancels -/
theorem product_nl_ln_covariant (U : Matrix (Fin n) (Fin n) K) (W : Matrix (Fin l) (Fin l) K) (hW : W * Wᴴ = 1)
    (A : Matrix (Fin n) (Fin l) K) (B : Matrix (Fin l) (Fin n) K) :
    (Uᴴ * A * W) * (Wᴴ * B * U) = Uᴴ * (A * B) * U := cj_mul U W U hW A B

/-- the model of `Data_K._rotate` followed by a trace: invariant under any unitary `U` (given as index function) -/
theorem rotate_trace_invariant (m : ℕ) (U X : ℕ → ℕ → K)
    (hU : (Matrix.of fun i j : Fin m => U i j) * (Matrix.of fun i j : Fin m => U i j)ᴴ = 1) :
    traceM m (rotate star m U X) = traceM m X := by
  rw [traceM_eq, traceM_eq, toM_rotate]
  exact trace_cj _ _ hU


/-! ## T2c: products of any number of factors (`FormulaProduct`) -/

/-- **T2c.**  `FormulaProduct.nn` — the chain `M₀·M₁·…·M_r` of covariant inner blocks — is covariant for ANY number
    of factors. -/
theorem product_chain_covariant (U : Matrix (Fin n) (Fin n) K) (hU : U * Uᴴ = 1)
    (M0 : Matrix (Fin n) (Fin n) K) (rest : List (Matrix (Fin n) (Fin n) K)) :
    productChain (Uᴴ * M0 * U) (rest.map fun X => Uᴴ * X * U) = Uᴴ * productChain M0 rest * U :=
  productChain_cj U hU M0 rest

/-- The trace of `FormulaProduct.nn` (what every calculator built on a product formula integrates or tabulates:
    `v·v·v`, `v·∂v·v`, `∂v·Ω·v`, …) does not depend on the gauge inside the band group. -/
theorem product_trace_gauge_invariant (U : Matrix (Fin n) (Fin n) K) (hU : U * Uᴴ = 1)
    (M0 : Matrix (Fin n) (Fin n) K) (rest : List (Matrix (Fin n) (Fin n) K)) :
    (productChain (Uᴴ * M0 * U) (rest.map fun X => Uᴴ * X * U)).trace = (productChain M0 rest).trace := by
  rw [product_chain_covariant U hU]; exact trace_cj U _ hU

/-- the same for `List.prod` (empty product included): `tr(Π U†XᵢU) = tr(Π Xᵢ)` -/
theorem list_prod_trace_gauge_invariant (U : Matrix (Fin n) (Fin n) K) (hU : U * Uᴴ = 1)
    (Xs : List (Matrix (Fin n) (Fin n) K)) :
    ((Xs.map fun X => Uᴴ * X * U).prod).trace = Xs.prod.trace := by
  cases Xs with
  | nil => rfl
  | cons X Xs =>
    rw [List.map_cons, prod_cons_eq_productChain, prod_cons_eq_productChain]
    exact product_trace_gauge_invariant U hU X Xs

/-- the optional Hermitian completion of `FormulaProduct.nn` (`0.5 (res + res†)`) keeps covariance -/
theorem hermitize_covariant (half : K) (U : Matrix (Fin n) (Fin n) K) (X : Matrix (Fin n) (Fin n) K) :
    half • (cj U U X + (cj U U X)ᴴ) = cj U U (half • (X + Xᴴ)) := by
  rw [cj_conjTranspose, ← cj_add, ← cj_smul]

/-- T2c on the executable model (`chainM`, run by the driver against the real `FormulaProduct.trace`; `productTrace` is
    `traceM` of the `chainM` of the `subM inn` blocks), with the model of `Data_K._rotate` -/
theorem chainM_trace_gauge_invariant (m : ℕ) (U : ℕ → ℕ → K) (hU : toM m U * (toM m U)ᴴ = 1)
    (M0 : ℕ → ℕ → K) (rest : List (ℕ → ℕ → K)) :
    traceM m (chainM m (rotate star m U M0) (rest.map (rotate star m U))) = traceM m (chainM m M0 rest) := by
  have h : (rest.map (rotate star m U)).map (toM m) = (rest.map (toM m)).map (cj (toM m U) (toM m U)) := by
    rw [List.map_map, List.map_map]; exact List.map_congr_left fun X _ => toM_rotate m U X
  rw [traceM_eq, traceM_eq, toM_chainM, toM_chainM, toM_rotate, h, productChain_cj _ hU, trace_cj _ _ hU]


/-- closing the chain with the last factor TRANSPOSED (`Tr(A·B·Cᵀ)`) is not gauge invariant: a 2-fold group,
    the unitary `diag(1, i)`, three Hermitian factors — the correct trace is unchanged, the transposed one is not -/
theorem transposed_last_factor_not_invariant :
    let U : ℕ → ℕ → WB.C27.GRat := fun i j => if i = j then (if i = 0 then ⟨1, 0⟩ else ⟨0, 1⟩) else ⟨0, 0⟩
    let A : ℕ → ℕ → WB.C27.GRat := mkM [[1, 2], [2, 0]] [[0, 1], [-1, 0]]
    let B : ℕ → ℕ → WB.C27.GRat := mkM [[0, 1], [1, 3]] [[0, -2], [2, 0]]
    let C : ℕ → ℕ → WB.C27.GRat := mkM [[2, 1], [1, 1]] [[0, 3], [-3, 0]]
    let r := rotate WB.C27.GRat.conj 2 U
    productTrace [0, 1] [r A, r B, r C] = productTrace [0, 1] [A, B, C] ∧
    productTraceLastT [0, 1] [r A, r B, r C] ≠ productTraceLastT [0, 1] [A, B, C] := by
  decide +kernel

/-! ## T3: generalised derivative, D_H, Omega -/

/-- `Matrix_GenDer_ln.nn = dA.nn - D.nl·A.ln + A.nl·D.ln` -/
def genDerNN (dAnn : Matrix (Fin n) (Fin n) K) (Dnl Anl : Matrix (Fin n) (Fin l) K)
    (Dln Aln : Matrix (Fin l) (Fin n) K) : Matrix (Fin n) (Fin n) K :=
  dAnn - Dnl * Aln + Anl * Dln

/-- `Matrix_GenDer_ln.ln = dA.ln - D.ln·A.nn + A.ll·D.ln` -/
def genDerLN (dAln Dln : Matrix (Fin l) (Fin n) K) (Ann : Matrix (Fin n) (Fin n) K)
    (All : Matrix (Fin l) (Fin l) K) : Matrix (Fin l) (Fin n) K :=
  dAln - Dln * Ann + All * Dln

/-- **T3a.** the `nn` block of the generalised derivative is covariant when `A`, `dA` and `D` are -/
theorem gender_nn_covariant (U : Matrix (Fin n) (Fin n) K) (W : Matrix (Fin l) (Fin l) K) (hW : W * Wᴴ = 1)
    (dAnn : Matrix (Fin n) (Fin n) K) (Dnl Anl : Matrix (Fin n) (Fin l) K) (Dln Aln : Matrix (Fin l) (Fin n) K) :
    genDerNN (cj U U dAnn) (cj U W Dnl) (cj U W Anl) (cj W U Dln) (cj W U Aln)
      = cj U U (genDerNN dAnn Dnl Anl Dln Aln) := by
  unfold genDerNN
  rw [cj_mul U W U hW, cj_mul U W U hW, cj_add, cj_sub]

/-- **T3b.** the `ln` block of the generalised derivative is covariant -/
theorem gender_ln_covariant (U : Matrix (Fin n) (Fin n) K) (W : Matrix (Fin l) (Fin l) K)
    (hU : U * Uᴴ = 1) (hW : W * Wᴴ = 1)
    (dAln Dln : Matrix (Fin l) (Fin n) K) (Ann : Matrix (Fin n) (Fin n) K) (All : Matrix (Fin l) (Fin l) K) :
    genDerLN (cj W U dAln) (cj W U Dln) (cj U U Ann) (cj W W All) = cj W U (genDerLN dAln Dln Ann All) := by
  unfold genDerLN
  rw [cj_mul W U U hU, cj_mul W W U hW, cj_add, cj_sub]

/-- `D_H[n,l] = -V[n,l] * φ(E n, E l)`  (`φ` = `dEig_inv` as a function of the two energies) -/
def DHmat (V : Matrix (Fin n) (Fin n) K) (E : Fin n → K) (φ : K → K → K) : Matrix (Fin n) (Fin n) K :=
  Matrix.of fun i j => -(V i j) * φ (E i) (E j)

/-- **T3c.** `D_H` is covariant under every unitary that mixes only states of exactly equal energy (the random gauge
    inside an exactly degenerate subspace); `φ` is any function of the two energies, e.g. `dEig_inv` with its mask. -/
theorem D_covariant (G V : Matrix (Fin n) (Fin n) K) (E : Fin n → K) (φ : K → K → K)
    (hG : ∀ i j, G i j ≠ 0 → E i = E j) :
    DHmat (Gᴴ * V * G) E φ = Gᴴ * DHmat V E φ * G := by
  have h := cj_had G G (-V) E E φ hG hG
  rw [cj_neg] at h
  exact h.symm

/-- `Omega.nn` for one Cartesian component `c` (α = alpha_A[c], β = beta_A[c]) with all terms:
    internal `-i D_nl^α D_ln^β`; external `½ O_nn - D_nl^α A_ln^β + D_nl^β A_ln^α - i A_nn^α A_nn^β`;
    then `summ += summ†`.  `int`/`ext` switch the internal / external terms (0 or 1). -/
def omegaNN (I half int ext : K) (Dnlα Dnlβ : Matrix (Fin n) (Fin l) K) (Dlnβ Alnα Alnβ : Matrix (Fin l) (Fin n) K)
    (Annα Annβ Onn : Matrix (Fin n) (Fin n) K) : Matrix (Fin n) (Fin n) K :=
  let S := int • (-I • (Dnlα * Dlnβ))
    + ext • (half • Onn - Dnlα * Alnβ + Dnlβ * Alnα - I • (Annα * Annβ))
  S + Sᴴ

/-- **T3d.** the complete Berry-curvature block (internal and external terms) is covariant -/
theorem omega_gauge_covariant (I half int ext : K) (U : Matrix (Fin n) (Fin n) K) (W : Matrix (Fin l) (Fin l) K)
    (hU : U * Uᴴ = 1) (hW : W * Wᴴ = 1)
    (Dnlα Dnlβ : Matrix (Fin n) (Fin l) K) (Dlnβ Alnα Alnβ : Matrix (Fin l) (Fin n) K)
    (Annα Annβ Onn : Matrix (Fin n) (Fin n) K) :
    omegaNN I half int ext (cj U W Dnlα) (cj U W Dnlβ) (cj W U Dlnβ) (cj W U Alnα) (cj W U Alnβ)
        (cj U U Annα) (cj U U Annβ) (cj U U Onn)
      = cj U U (omegaNN I half int ext Dnlα Dnlβ Dlnβ Alnα Alnβ Annα Annβ Onn) := by
  unfold omegaNN
  simp only [cj_mul U W U hW, cj_mul U U U hU, ← cj_smul, ← cj_add, ← cj_sub, cj_conjTranspose]

/-- **T3e.** The tabulated / integrated Berry curvature of a band group does not depend on the gauge chosen
    inside the group (`U`) nor outside it (`W`) -/
theorem omega_trace_gauge_invariant (I half int ext : K) (U : Matrix (Fin n) (Fin n) K) (W : Matrix (Fin l) (Fin l) K)
    (hU : U * Uᴴ = 1) (hW : W * Wᴴ = 1)
    (Dnlα Dnlβ : Matrix (Fin n) (Fin l) K) (Dlnβ Alnα Alnβ : Matrix (Fin l) (Fin n) K)
    (Annα Annβ Onn : Matrix (Fin n) (Fin n) K) :
    (omegaNN I half int ext (cj U W Dnlα) (cj U W Dnlβ) (cj W U Dlnβ) (cj W U Alnα) (cj W U Alnβ)
        (cj U U Annα) (cj U U Annβ) (cj U U Onn)).trace
      = (omegaNN I half int ext Dnlα Dnlβ Dlnβ Alnα Alnβ Annα Annβ Onn).trace := by
  rw [omega_gauge_covariant I half int ext U W hU hW, trace_cj _ _ hU]

/-! ## T4: covariant expressions.  The class terms are those the driver runs against the real classes
  (harness corr `fx`). -/

/-- **T4 (soundness).**  If every atom block `Xbar(name,der)[r,c]` goes to `U_r† X U_c` (inner and outer unitaries
    independent), every expression goes to `U_r† (value) U_c`. -/
theorem formula_expr_covariant (env : BEnv K) (g : Gauge env)
    (blk' : String → ℕ → List ℕ → Side → Side → ℕ → ℕ → K)
    (hatom : ∀ name der cs r c, toMat (env.dim r) (env.dim c) (blk' name der cs r c)
      = cj (g.U r) (g.U c) (toMat (env.dim r) (env.dim c) (env.blk name der cs r c)))
    {r c : Side} (e : CExpr K r c) :
    toMat (env.dim r) (env.dim c) (e.eval star { env with blk := blk' })
      = (g.U r)ᴴ * toMat (env.dim r) (env.dim c) (e.eval star env) * g.U c :=
  covariant_sound env g blk' hatom e

/-- **T4 (traces).**  The trace over the inner set of every diagonal-block expression is gauge invariant; hence
    (trivially) so are `tr + tr*` and `tr - tr*` (`Formula_ln.trace` takes `.real`, `SpinOmega` takes `.imag`). -/
theorem formula_expr_trace_invariant (env : BEnv K) (g : Gauge env)
    (blk' : String → ℕ → List ℕ → Side → Side → ℕ → ℕ → K)
    (hatom : ∀ name der cs r c, toMat (env.dim r) (env.dim c) (blk' name der cs r c)
      = cj (g.U r) (g.U c) (toMat (env.dim r) (env.dim c) (env.blk name der cs r c)))
    {r : Side} (e : CExpr K r r) :
    traceM (env.dim r) (e.eval star { env with blk := blk' }) = traceM (env.dim r) (e.eval star env)
    ∧ traceM (env.dim r) (e.eval star { env with blk := blk' }) + star (traceM (env.dim r) (e.eval star { env with blk := blk' }))
        = traceM (env.dim r) (e.eval star env) + star (traceM (env.dim r) (e.eval star env))
    ∧ traceM (env.dim r) (e.eval star { env with blk := blk' }) - star (traceM (env.dim r) (e.eval star { env with blk := blk' }))
        = traceM (env.dim r) (e.eval star env) - star (traceM (env.dim r) (e.eval star env)) := by
  have h := trace_sound env g blk' hatom e
  exact ⟨h, by rw [h], by rw [h]⟩

section classes
variable (env : BEnv K) (g : Gauge env) (blk' : String → ℕ → List ℕ → Side → Side → ℕ → ℕ → K)
  (hatom : ∀ name der cs r c, toMat (env.dim r) (env.dim c) (blk' name der cs r c)
    = cj (g.U r) (g.U c) (toMat (env.dim r) (env.dim c) (env.blk name der cs r c)))
  (I half sgn : K) (dei : K → K → K) (int ext : Bool) (oo : String) (cs : List ℕ) (r : Side)
include hatom

/-- `Omega` (internal and external terms, any `key_OO`) -/
theorem Omega_trace_gauge_invariant :
    traceM (env.dim r) ((omegaE I half dei int ext oo cs r).eval star { env with blk := blk' })
      = traceM (env.dim r) ((omegaE I half dei int ext oo cs r).eval star env) := trace_sound env g blk' hatom _

/-- `DerOmega` -/
theorem DerOmega_trace_gauge_invariant :
    traceM (env.dim r) ((derOmegaE I half dei int ext oo cs r).eval star { env with blk := blk' })
      = traceM (env.dim r) ((derOmegaE I half dei int ext oo cs r).eval star env) := trace_sound env g blk' hatom _

/-- `Morb_H` (BB, CC terms and the energy-weighted products) -/
theorem Morb_H_trace_gauge_invariant :
    traceM (env.dim r) ((morbHE I half dei int ext cs r).eval star { env with blk := blk' })
      = traceM (env.dim r) ((morbHE I half dei int ext cs r).eval star env) := trace_sound env g blk' hatom _

/-- `Morb_Hpm` / `morb` (`Morb_H ± (E_m+E_n)/2 · Omega`) -/
theorem Morb_Hpm_trace_gauge_invariant :
    traceM (env.dim r) ((morbHpmE I half sgn dei int ext oo cs r).eval star { env with blk := blk' })
      = traceM (env.dim r) ((morbHpmE I half sgn dei int ext oo cs r).eval star env) := trace_sound env g blk' hatom _

/-- `DerMorb_H` -/
theorem DerMorb_H_trace_gauge_invariant :
    traceM (env.dim r) ((derMorbHE I half dei int ext cs r).eval star { env with blk := blk' })
      = traceM (env.dim r) ((derMorbHE I half dei int ext cs r).eval star env) := trace_sound env g blk' hatom _

/-- `DerMorb` / `Dermorb` -/
theorem DerMorb_trace_gauge_invariant :
    traceM (env.dim r) ((derMorbE I half sgn dei int ext oo cs r).eval star { env with blk := blk' })
      = traceM (env.dim r) ((derMorbE I half sgn dei int ext oo cs r).eval star env) := trace_sound env g blk' hatom _

/-- `InvMass` (second derivative of the band energy) -/
theorem InvMass_trace_gauge_invariant :
    traceM (env.dim r) ((invMass dei cs r r).eval star { env with blk := blk' })
      = traceM (env.dim r) ((invMass dei cs r r).eval star env) := trace_sound env g blk' hatom _

/-- `Der3E` -/
theorem Der3E_trace_gauge_invariant :
    traceM (env.dim r) ((der3E dei cs r).eval star { env with blk := blk' })
      = traceM (env.dim r) ((der3E dei cs r).eval star env) := trace_sound env g blk' hatom _

/-- `Spin`, and any `Matrix_ln(Xbar(name, der))` (`Velocity` on the diagonal blocks) -/
theorem Matrix_ln_trace_gauge_invariant (name : String) (der : ℕ) :
    traceM (env.dim r) ((Xm name der cs r r).eval star { env with blk := blk' })
      = traceM (env.dim r) ((Xm name der cs r r).eval star env) := trace_sound env g blk' hatom _

/-- `DerSpin` and every `data_K.covariant(name, gender=1)` (`Matrix_GenDer_ln`) -/
theorem GenDer_trace_gauge_invariant (name : String) :
    traceM (env.dim r) ((covGender dei name cs r r).eval star { env with blk := blk' })
      = traceM (env.dim r) ((covGender dei name cs r r).eval star env) := trace_sound env g blk' hatom _

/-- `Der2Spin` (and `Der2A`, `Der2B`, `Der2O`, `Der2H`, which have the same body) -/
theorem Der2X_trace_gauge_invariant (name : String) :
    traceM (env.dim r) ((der2X dei name cs r r).eval star { env with blk := blk' })
      = traceM (env.dim r) ((der2X dei name cs r r).eval star env) := trace_sound env g blk' hatom _

/-- `Der2Omega` -/
theorem Der2Omega_trace_gauge_invariant :
    traceM (env.dim r) ((der2OmegaE I half dei int ext cs r).eval star { env with blk := blk' })
      = traceM (env.dim r) ((der2OmegaE I half dei int ext cs r).eval star env) := trace_sound env g blk' hatom _

/-- `Der2Morb_H` -/
theorem Der2Morb_H_trace_gauge_invariant :
    traceM (env.dim r) ((der2MorbHE I half dei int ext cs r).eval star { env with blk := blk' })
      = traceM (env.dim r) ((der2MorbHE I half dei int ext cs r).eval star env) := trace_sound env g blk' hatom _

/-- `Der2Morb` / `Der2morb` -/
theorem Der2Morb_trace_gauge_invariant :
    traceM (env.dim r) ((der2MorbE I half sgn dei int ext oo cs r).eval star { env with blk := blk' })
      = traceM (env.dim r) ((der2MorbE I half sgn dei int ext oo cs r).eval star env) := trace_sound env g blk' hatom _

/-- `DerDcov` and `Der2Dcov` (off-diagonal blocks) are covariant -/
theorem DerDcov_Der2Dcov_covariant (c' : Side) :
    toMat (env.dim r) (env.dim c') ((derDcov dei cs r c').eval star { env with blk := blk' })
        = (g.U r)ᴴ * toMat (env.dim r) (env.dim c') ((derDcov dei cs r c').eval star env) * g.U c'
    ∧ toMat (env.dim r) (env.dim c') ((der2Dcov dei cs r c').eval star { env with blk := blk' })
        = (g.U r)ᴴ * toMat (env.dim r) (env.dim c') ((der2Dcov dei cs r c').eval star env) * g.U c' :=
  ⟨covariant_sound env g blk' hatom _, covariant_sound env g blk' hatom _⟩

/-- products of any number of diagonal-block formulas (`FormulaProduct`: `VelVelVel`, `VelMassVel`, `VelOmega`, …) -/
theorem Product_trace_gauge_invariant (x : CExpr K r r) (rest : List (CExpr K r r)) :
    traceM (env.dim r) ((prodE x rest).eval star { env with blk := blk' })
      = traceM (env.dim r) ((prodE x rest).eval star env) := trace_sound env g blk' hatom _

end classes

/-- the gauge structure is inhabited in a non-trivial way: the identity on one set and a 90° rotation inside a
    degenerate doublet on the other (both energies equal) -/
example : ∃ (env : BEnv ℂ) (g : Gauge env), g.U .inn ≠ 1 := by
  let env : BEnv ℂ := ⟨fun s => match s with | .inn => 2 | .out => 1, fun _ _ _ _ _ _ _ => 0, fun _ _ => 0⟩
  refine ⟨env, ⟨fun s => match s with | .inn => !![0, 1; -1, 0] | .out => 1, ?_, fun _ _ _ _ => rfl⟩, fun h => ?_⟩
  · rintro (_ | _)
    · exact rot90_unitary
    · exact (congrArg _ Matrix.conjTranspose_one).trans (one_mul 1)
  · exact one_ne_zero (congrFun (congrFun h 0) 1)

/-! ## band groups must be closed under the gauge's mixing -/

theorem blocks_of_conj (U : Matrix (Fin n) (Fin n) K) (W : Matrix (Fin l) (Fin l) K)
    (Xnn : Matrix (Fin n) (Fin n) K) (Xnl : Matrix (Fin n) (Fin l) K) (Xln : Matrix (Fin l) (Fin n) K)
    (Xll : Matrix (Fin l) (Fin l) K) :
    (Matrix.fromBlocks U 0 0 W)ᴴ * Matrix.fromBlocks Xnn Xnl Xln Xll * Matrix.fromBlocks U 0 0 W
      = Matrix.fromBlocks (cj U U Xnn) (cj U W Xnl) (cj W U Xln) (cj W W Xll) := by
  simp only [cj, Matrix.fromBlocks_conjTranspose, Matrix.fromBlocks_multiply, Matrix.conjTranspose_zero,
    Matrix.zero_mul, Matrix.mul_zero, add_zero, zero_add]

/-- if the gauge change is block diagonal with respect to the split inner / outer (the group is closed under the
    mixing), the trace over the group is invariant -/
theorem group_trace_invariant_of_closed (U : Matrix (Fin n) (Fin n) K) (W : Matrix (Fin l) (Fin l) K) (hU : U * Uᴴ = 1)
    (Xnn : Matrix (Fin n) (Fin n) K) (Xnl : Matrix (Fin n) (Fin l) K) (Xln : Matrix (Fin l) (Fin n) K)
    (Xll : Matrix (Fin l) (Fin l) K) :
    ((Matrix.fromBlocks U 0 0 W)ᴴ * Matrix.fromBlocks Xnn Xnl Xln Xll * Matrix.fromBlocks U 0 0 W).toBlocks₁₁.trace
      = Xnn.trace := by
  rw [blocks_of_conj, Matrix.toBlocks_fromBlocks₁₁]
  exact trace_cj U Xnn hU

end gauge

/-- The closedness is needed: a 4-fold degenerate subspace cut into the pairs `{0,1}`, `{2,3}` (what a fixed pairing does
    to two touching Kramers pairs); exchanging states 1 and 2 keeps the trace over all four, not the trace over a pair. -/
theorem pair_trace_not_invariant_in_quartet :
    ∃ (U X : Matrix (Fin 4) (Fin 4) ℚ), U * Uᴴ = 1 ∧ (Uᴴ * X * U).trace = X.trace ∧
      (Uᴴ * X * U) 0 0 + (Uᴴ * X * U) 1 1 ≠ X 0 0 + X 1 1 := by
  have hU : (!![1, 0, 0, 0; 0, 0, 1, 0; 0, 1, 0, 0; 0, 0, 0, 1] : Matrix (Fin 4) (Fin 4) ℚ)
      * (!![1, 0, 0, 0; 0, 0, 1, 0; 0, 1, 0, 0; 0, 0, 0, 1])ᴴ = 1 := by decide +kernel
  exact ⟨_, Matrix.diagonal ![1, 2, 3, 4], hU, trace_cj _ _ hU, by decide +kernel⟩

/-! ## the degenerate groups of `Data_K.degen` and the random gauge -/

/-- every group rotated by `random_gauge` has at least two bands and all gaps inside it are `≤ thr` -/
theorem degenGroups_spec (E : ℕ → ℚ) (thr : ℚ) (n a b : ℕ) (h : (a, b) ∈ degenGroups E thr n) :
    b - a > 1 ∧ ∀ i, a < i → i < b → E i - E (i - 1) ≤ thr := by
  unfold degenGroups at h
  rw [List.mem_filter] at h
  refine ⟨by simpa using h.2, ?_⟩
  intro i h1 h2
  exact WB.C15.blocks_internal_gap E thr n a b i h.1 h1 h2

/-- columns outside every degenerate group are left untouched by the random gauge -/
theorem applyGauge_outside {K : Type} [Add K] [Mul K] [Zero K] (groups : List (ℕ × ℕ)) (W : ℕ → ℕ → ℕ → K)
    (UU : ℕ → ℕ → K) (r j : ℕ) (h : ∀ g ∈ groups, ¬ (g.1 ≤ j ∧ j < g.2)) :
    applyGauge groups W UU r j = UU r j := by
  unfold applyGauge groupOf
  have : groups.zipIdx.find? (fun g => decide (g.1.1 ≤ j) && decide (j < g.1.2)) = none := by
    rw [List.find?_eq_none]
    intro g hg
    simpa using h g.1 (List.fst_mem_of_mem_zipIdx hg)
  rw [this]; rfl

/-! ## non-vacuity -/

/-- the hypotheses of T2/T3 are met by a non-trivial unitary over ℂ: the rotation by 90° mixing two states -/
example : (!![0, 1; -1, 0] : Matrix (Fin 2) (Fin 2) ℂ) * (!![0, 1; -1, 0] : Matrix (Fin 2) (Fin 2) ℂ)ᴴ = 1 :=
  rot90_unitary

/-- the hypothesis of T3c (G mixes only equal energies) is met by that rotation on a doublet, and violated when the
    two energies differ: there `D_H` is NOT covariant -/
example : ∃ (G V : Matrix (Fin 2) (Fin 2) ℚ) (E : Fin 2 → ℚ),
    Gᴴ * DHmat V E (fun x y => if x = y then 0 else (x - y)⁻¹) * G
      ≠ DHmat (Gᴴ * V * G) E (fun x y => if x = y then 0 else (x - y)⁻¹) :=
  ⟨!![1, 1; -1, 1], !![0, 1; 1, 0], ![0, 1], by decide +kernel⟩

/-- the driver's degenerate-group finder on a concrete spectrum: a doublet and a triplet are found, singles are not -/
example : degenGroups (WB.C15.ofList [0, 1, 1, 2, 3, 3, 3]) (1/10000) 7 = [(1, 3), (4, 7)] := by decide +kernel

end WB.C04
