/-
  C02 — property theorems: all Fourier back ends give the same k-space matrices; results are Hermitian.

  Vocabulary: an "entry" is `(R, X_ab(R))` for one matrix element and Cartesian component;
  `placeOnBox N entries` = the FFT box after `AAA_K[iRvec % NKFFT] += AAA_R`;  `explicitSum χ` = `Σ_R χ(R) X(R)`
  (= the `slow_path`/k-list branch with `χ = e^{2πi k·R}`);  `fftPath` / `slowPath` = the fft and slow branches of
  `FFT_R_to_k.__call__` after `apply_expdK`;  `boxChar ζ m R = Π_i ζ_i^{m_i R_i}` = `e^{2πi (m/N)·R}`;
  `derivN I vs x` = the factor applied by `R_to_k(der=n)`.
-/
import WB.Lemmas.C02Herm

namespace WB.C02
open WB.C01

/-! ## T1 — box placement, every box size -/

/-- T1.  For every FFT box (including boxes SMALLER than recommended, where different R vectors collide and are
    added up) and every character that is periodic with the box: `Σ_{c∈box} χ(c)·box(c) = Σ_R χ(R)·X(R)`. -/
theorem box_sum_eq_list_sum {K : Type} [Field K] (N : Mesh) (h1 : 0 < N.1) (h2 : 0 < N.2.1) (h3 : 0 < N.2.2)
    (χ : Vec3 → K) (hper : ∀ R, χ R = χ (vmod R N)) (entries : List (Vec3 × K)) :
    sumK ((gridPoints N).map fun c => χ c * placeOnBox N entries c) = explicitSum χ entries :=
  -- regrouping by fibres of `R ↦ R mod N`, then periodicity of `χ`
  (sumK_fibres (gridPoints N) (nodup_gridPoints N) entries (fun e => vmod e.1 N)
    (fun e _ => vmod_mem_gridPoints N h1 h2 h3 e.1) χ (·.2)).trans
    (sumK_map_congr _ _ _ fun e _ => by rw [← hper])

/-! ## T2 — slow-FT index -/

/-- T2.  `ζ^N = 1 → exponent[(k·R) mod N] = ζ^{k·R}` for all integers `k`, `R` (and the same with `R` reduced mod `N`
    first, as the code does). -/
theorem slow_index {K : Type} [Field K] (ζ : K) (N : Nat) (hN : 0 < N) (h : ζ ^ N = 1) (k R : Int) :
    slowPhase ζ N k R = ζ ^ (k * R) ∧ slowPhase ζ N k (R % (N : Int)) = ζ ^ (k * R) := by
  have e : ∀ R, slowPhase ζ N k R = ζ ^ (k * R) := fun R => by
    rw [slowPhase, npow_eq_pow, ← zpow_natCast, Int.toNat_of_nonneg (Int.emod_nonneg _ (by omega)), zpow_emod ζ N hN h]
  exact ⟨e R, by rw [e, zpow_mul_emod ζ N hN h]⟩

/-! ## T3 — the back ends agree -/

/-- T3a.  (`IDFTContract` = the library's `ifftn·prod(N)` is the inverse-DFT sum `Σ_c χ_m(c) B(c)`.)
    fft branch = explicit sum with the character of `k = m/N + dK`, for every box size. -/
theorem fft_path_eq_explicit {K : Type} [Field K] (N : Mesh) (h1 : 0 < N.1) (h2 : 0 < N.2.1) (h3 : 0 < N.2.2)
    (χ : Vec3 → Vec3 → K) (hper : ∀ m R, χ m R = χ m (vmod R N))
    (Finv : (Vec3 → K) → Vec3 → K) (hF : IDFTContract N χ Finv)
    (χd : Vec3 → K) (entries : List (Vec3 × K)) (m : Vec3) (hm : m ∈ gridPoints N) :
    fftPath Finv N χd entries m = explicitSum (fun R => χ m R * χd R) entries := by
  unfold fftPath fftCore
  rw [hF _ m hm, box_sum_eq_list_sum N h1 h2 h3 (χ m) (hper m), explicitSum_applyExpdK]

/-- `IDFTContract` is satisfied, for every box and every family of characters, by the explicit inverse-DFT sum itself
    (the contract only says that the library evaluates that sum). -/
theorem explicit_idft_satisfies_contract {K : Type} [Field K] (N : Mesh) (χ : Vec3 → Vec3 → K) :
    IDFTContract N χ (fun B m => sumK ((gridPoints N).map fun c => χ m c * B c)) :=
  fun _ _ _ => rfl

/-- T3b.  slow branch = the same explicit sum (roots of unity `ζ_i^{N_i} = 1`). -/
theorem slow_path_eq_explicit {K : Type} [Field K] (ζ : K × K × K) (N : Mesh)
    (h1 : 0 < N.1) (h2 : 0 < N.2.1) (h3 : 0 < N.2.2)
    (z1 : ζ.1 ^ N.1 = 1) (z2 : ζ.2.1 ^ N.2.1 = 1) (z3 : ζ.2.2 ^ N.2.2 = 1)
    (χd : Vec3 → K) (entries : List (Vec3 × K)) (m : Vec3) :
    slowPath ζ N χd entries m = explicitSum (fun R => boxChar ζ m R * χd R) entries := by
  rw [← explicitSum_applyExpdK]
  unfold slowPath slowCore explicitSum
  apply sumK_map_congr
  intro e _
  simp only [vmod]
  rw [(slow_index ζ.1 N.1 h1 z1 _ _).2, (slow_index ζ.2.1 N.2.1 h2 z2 _ _).2, (slow_index ζ.2.2 N.2.2 h3 z3 _ _).2]
  rfl

/-- T3 (corollary).  fftw ≡ numpy ≡ slow ≡ explicit k-list: with the box characters `boxChar ζ`, any `dK` character
    `χd`, any box size, any R list (collisions or not) and data in any field, all paths return
    `Σ_R χ_k(R) X(R)` with `χ_k = χ_{m/N} · χ_{dK}` — which is what the k-list branch computes directly. -/
theorem backends_agree {K : Type} [Field K] (ζ : K × K × K) (N : Mesh)
    (h1 : 0 < N.1) (h2 : 0 < N.2.1) (h3 : 0 < N.2.2)
    (z1 : ζ.1 ^ N.1 = 1) (z2 : ζ.2.1 ^ N.2.1 = 1) (z3 : ζ.2.2 ^ N.2.2 = 1)
    (Finv : (Vec3 → K) → Vec3 → K) (hF : IDFTContract N (boxChar ζ) Finv)
    (χd : Vec3 → K) (entries : List (Vec3 × K)) (m : Vec3) (hm : m ∈ gridPoints N) :
    fftPath Finv N χd entries m = slowPath ζ N χd entries m ∧
    slowPath ζ N χd entries m = explicitSum (fun R => boxChar ζ m R * χd R) entries := by
  refine ⟨?_, slow_path_eq_explicit ζ N h1 h2 h3 z1 z2 z3 χd entries m⟩
  rw [slow_path_eq_explicit ζ N h1 h2 h3 z1 z2 z3 χd entries m]
  exact fft_path_eq_explicit N h1 h2 h3 (boxChar ζ) (boxChar_periodic ζ N h1 h2 h3 z1 z2 z3) Finv hF χd entries m hm

/-! ## no hidden state: `R_to_k` depends on the CURRENT configuration only -/

/-- For every history of `set_fft_R_to_k` calls on one `Rvectors` object (grids with any `NK`, `fftlib`, `dK`, and
    k-lists, in any order), the result of `R_to_k(apply_expdK(X))` after the last call is what that last configuration
    alone prescribes — nothing of the earlier calls survives (in particular not the `exp(2πi dK·R)` factors of an
    earlier `dK`, although the k-list branch leaves the stale `self.expdK` in place). -/
theorem rtok_depends_on_current_config {K : Type} [Field K]
    (Finv : Mesh → (Vec3 → K) → Vec3 → K) (ζ : Mesh → K × K × K)
    (hist : List (Cfg K)) (c : Cfg K) (entries : List (Vec3 × K)) :
    rToK Finv ζ (runCfgs (hist ++ [c])) entries = rToKcfg Finv ζ c entries := by
  unfold runCfgs
  rw [List.foldl_append]
  cases c with
  | grid N lib χd => cases lib <;> rfl
  | klist χs => rfl

/-- … and therefore, after ANY history, a grid configuration `(N, fftlib, dK)` returns at every grid point `m` the
    explicit sum `Σ_R χ_{m/N}(R)·χ_{dK}(R)·X(R)` of the current `dK` (both branches; fft branch under the contract), and
    a k-list configuration returns the explicit sums of its own k-points. -/
theorem rtok_after_any_history {K : Type} [Field K]
    (Finv : Mesh → (Vec3 → K) → Vec3 → K) (ζ : Mesh → K × K × K) (hist : List (Cfg K)) (entries : List (Vec3 × K))
    (N : Mesh) (h1 : 0 < N.1) (h2 : 0 < N.2.1) (h3 : 0 < N.2.2)
    (z1 : (ζ N).1 ^ N.1 = 1) (z2 : (ζ N).2.1 ^ N.2.1 = 1) (z3 : (ζ N).2.2 ^ N.2.2 = 1)
    (hF : IDFTContract N (boxChar (ζ N)) (Finv N)) (lib : Lib) (χd : Vec3 → K) (χs : List (Vec3 → K)) :
    rToK Finv ζ (runCfgs (hist ++ [Cfg.grid N lib χd])) entries
        = (gridPoints N).map (fun m => explicitSum (fun R => boxChar (ζ N) m R * χd R) entries) ∧
    rToK Finv ζ (runCfgs (hist ++ [Cfg.klist χs])) entries = χs.map fun χ => explicitSum χ entries := by
  constructor
  · rw [rtok_depends_on_current_config]
    cases lib
    · apply List.map_congr_left
      intro m hm
      exact fft_path_eq_explicit N h1 h2 h3 (boxChar (ζ N)) (boxChar_periodic (ζ N) N h1 h2 h3 z1 z2 z3) (Finv N) hF χd entries m hm
    · apply List.map_congr_left
      intro m _
      exact slow_path_eq_explicit (ζ N) N h1 h2 h3 z1 z2 z3 χd entries m
  · rw [rtok_depends_on_current_config]
    rfl

/-! ## T4 — Hermiticity -/

/-- T4a.  If `X(-R) = X(R)†` then so does the real-space matrix after `n` applications of `derivative`, for every
    order `n` and every choice of Cartesian components, whenever the factors are real and odd under
    `(R,a,b) ↦ (-R,b,a)`; `I` is any element with `conj I = -I`. -/
theorem deriv_hermitian {K : Type} [Field K] [StarRing K] (I : K) (hI : star I = -I)
    (vs : List (Vec3 → Nat → Nat → K)) (hvs : ∀ v ∈ vs, RealOdd v)
    (X : Vec3 → Nat → Nat → K) (hX : HermR X) :
    HermR (fun R a b => derivN I (vs.map fun v => v R a b) (X R a b)) := by
  induction vs generalizing X with
  | nil => exact hX
  | cons v vs ih =>
    exact ih (fun w hw => hvs w (List.mem_cons_of_mem _ hw)) _
      (derivStep_hermitian I hI v (hvs v List.mem_cons_self) X hX)

/-- T4b.  The factor the code uses, `cRvec_shifted = (R + t_b − t_a)·L`, is real and odd — for every lattice and
    every set of centres. -/
theorem code_factor_real_odd {K : Type} [Field K] [StarRing K] (L : List (List Rat)) (cs : List QVec3) (α : Nat) :
    RealOdd (fun R a b => ((cRshift L cs R a b α : Rat) : K)) :=
  ⟨fun _ _ _ => star_ratCast _, fun R a b => by simp only [cRshift_odd, Rat.cast_neg]⟩

/-- T4c.  Hence the k-space Hamiltonian and every Cartesian component of its 1st, 2nd, 3rd, … derivative are Hermitian
    matrices: for Hermitian real-space data on an inversion-symmetric R list (`iRvec.map vneg` a permutation of
    `iRvec`; duplicates allowed), every lattice, centres,
    components `αs`, and every character with `conj χ(R) = χ(−R)` (all `e^{2πi k·R}`),
    `H_{ba} = conj H_{ab}` where `H_{ab} = Σ_R χ(R) · i^n Π_α (R+t_b−t_a)_α · X_{ab}(R)`. -/
theorem kspace_derivatives_hermitian {K : Type} [Field K] [StarRing K] (I : K) (hI : star I = -I)
    (L : List (List Rat)) (cs : List QVec3) (αs : List Nat)
    (iRvec : List Vec3) (hsym : (iRvec.map vneg).Perm iRvec)
    (χ : Vec3 → K) (hχ : ∀ R, star (χ R) = χ (vneg R))
    (X : Vec3 → Nat → Nat → K) (hX : HermR X) (a b : Nat) :
    let Y : Vec3 → Nat → Nat → K := fun R a b =>
      derivN I (αs.map fun α => ((cRshift L cs R a b α : Rat) : K)) (X R a b)
    explicitSum χ (iRvec.map fun R => (R, Y R b a)) = star (explicitSum χ (iRvec.map fun R => (R, Y R a b))) := by
  intro Y
  have hY : HermR Y := fun R a b => by
    simpa only [List.map_map, Function.comp_def, Y] using
      deriv_hermitian I hI (αs.map fun α => fun R a b => ((cRshift L cs R a b α : Rat) : K))
        (fun v hv => by
          obtain ⟨α, -, rfl⟩ := List.mem_map.mp hv
          exact code_factor_real_odd L cs α) X hX R a b
  exact ksum_hermitian iRvec hsym χ hχ Y hY a b

/-- T4d.  `hermitian=True` (`0.5·(A + A†)`) returns a Hermitian matrix, leaves a Hermitian matrix unchanged, and is
    therefore idempotent (characteristic ≠ 2). -/
theorem hermitize_props {K : Type} [Field K] [StarRing K] (h2 : (2 : K) ≠ 0) (A : Nat → Nat → K) :
    (∀ a b, hermitize ((2 : K)⁻¹) star A b a = star (hermitize ((2 : K)⁻¹) star A a b)) ∧
    ((∀ a b, A b a = star (A a b)) → ∀ a b, hermitize ((2 : K)⁻¹) star A a b = A a b) ∧
    (∀ a b, hermitize ((2 : K)⁻¹) star (hermitize ((2 : K)⁻¹) star A) a b = hermitize ((2 : K)⁻¹) star A a b) := by
  refine ⟨hermitize_hermitian A, hermitize_fix h2 A, ?_⟩
  exact hermitize_fix h2 _ (fun a b => hermitize_hermitian A a b)

/-! ## the `hermitian` / `antihermitean` option and the k layout -/

/-- The option acts on the two band indices at fixed k WHATEVER the layout of the k index: for every re-indexing `φ` of the
    k-points (flattening `(k1,k2,k3) ↦ k`, `reshapeKline=False`, a k list) hermitising the re-laid-out array is the
    re-laid-out hermitised array. -/
theorem hermK_layout_independent {K : Type} [Field K] {ι ι' : Type} (half : K) (conj : K → K) (sign : K)
    (H : ι → Nat → Nat → K) (φ : ι' → ι) (k' : ι') (a b : Nat) :
    hermK half conj sign (fun k => H (φ k)) k' a b = hermK half conj sign H (φ k') a b := rfl

/-- `hermitian=True` is a no-op on a matrix that is Hermitian at every k (characteristic ≠ 2), in every layout;
    `antihermitean=True` then returns 0. -/
theorem hermK_noop_on_hermitian {K : Type} [Field K] [StarRing K] (h2 : (2 : K) ≠ 0) {ι : Type}
    (H : ι → Nat → Nat → K) (hH : ∀ k a b, H k b a = star (H k a b)) (k : ι) (a b : Nat) :
    hermK ((2 : K)⁻¹) star 1 H k a b = H k a b ∧ hermK ((2 : K)⁻¹) star (-1) H k a b = 0 := by
  unfold hermK
  constructor
  · rw [one_mul]
    exact hermitize_fix h2 (H k) (hH k) a b
  · rw [hH k a b, star_star, neg_one_mul, add_neg_cancel, mul_zero]

/-- Exchanging GRID axes instead (what `swapaxes(1,2)` does to an array still in the `(N1,N2,N3,m,n)` layout) is a different
    operation: one band, grid (1,2,2), real `H(k) = 1, 2, 3, 4` (Hermitian at every k): the correct option returns `H`,
    the grid swap averages `H(0,0,1)` with `H(0,1,0)`. -/
theorem swapping_grid_axes_differs :
    let H : Vec3 → Nat → Nat → Rat := fun m _ _ => 1 + m.2.1 * 2 + m.2.2
    let pts : List Vec3 := [(0, 0, 0), (0, 0, 1), (0, 1, 0), (0, 1, 1)]
    pts.map (fun m => hermK (1 / 2) id 1 H m 0 0) = [1, 2, 3, 4] ∧
    pts.map (fun m => hermSwapGrid (1 / 2) id H m 0 0) = [1, 5 / 2, 5 / 2, 4] := by
  decide +kernel

/-! ## `Data_K_R._rotate` / `Xbar` glue -/

/-- `_rotate` (`U†XU` per k-point, applied to every Cartesian component separately) maps a Hermitian matrix to a
    Hermitian matrix for ANY `U` (the eigenvector matrix of `eigh`, unitary or not, any gauge) and any size. -/
theorem rotate_preserves_hermiticity {K : Type} [Field K] [StarRing K] (n : Nat) (U X : Nat → Nat → K)
    (hX : ∀ b c, X c b = star (X b c)) (a d : Nat) :
    rotate n star U X d a = star (rotate n star U X a d) := by
  unfold rotate
  rw [star_sumK, List.map_map, sumK_comm]
  apply sumK_map_congr
  intro b _
  simp only [Function.comp]
  rw [star_sumK, List.map_map]
  apply sumK_map_congr
  intro c _
  simp only [Function.comp, star_mul', star_star, ← hX b c]
  ring

/-- Corollary (`Xbar(name, der)`).  For Hermitian real-space data on an inversion-symmetric R list, every Cartesian
    component of every derivative order of the k-space matrix stays Hermitian after the rotation to the Hamiltonian
    gauge — the statement `kspace_derivatives_hermitian` survives `_rotate`. -/
theorem xbar_hermitian {K : Type} [Field K] [StarRing K] (I : K) (hI : star I = -I)
    (L : List (List Rat)) (cs : List QVec3) (αs : List Nat)
    (iRvec : List Vec3) (hsym : (iRvec.map vneg).Perm iRvec)
    (χ : Vec3 → K) (hχ : ∀ R, star (χ R) = χ (vneg R))
    (X : Vec3 → Nat → Nat → K) (hX : HermR X) (n : Nat) (U : Nat → Nat → K) (a d : Nat) :
    let Y : Vec3 → Nat → Nat → K := fun R a b =>
      derivN I (αs.map fun α => ((cRshift L cs R a b α : Rat) : K)) (X R a b)
    let H : Nat → Nat → K := fun a b => explicitSum χ (iRvec.map fun R => (R, Y R a b))
    rotate n star U H d a = star (rotate n star U H a d) := by
  intro Y H
  apply rotate_preserves_hermiticity
  intro b c
  exact kspace_derivatives_hermitian I hI L cs αs iRvec hsym χ hχ X hX b c

/-! ## non-vacuity -/

/-- a box smaller than the R set: R = 0, 2, −2, 1 on the box (2,1,1) collide pairwise; contents are added -/
example :
    (gridPoints (2, 1, 1)).map (placeOnBox (K := Rat) (2, 1, 1) [((0, 0, 0), 1), ((2, 0, 0), 10), ((-2, 0, 0), 100), ((1, 0, 0), 1000)])
      = [111, 1000] := by decide +kernel

/-- the hypotheses of `backends_agree` are satisfiable with a non-trivial root of unity: `ζ = (-1, 1, 1)` on the box
    (2,1,1) over ℚ, with the explicit inverse DFT as the library -/
example :
    let ζ : ℚ × ℚ × ℚ := (-1, 1, 1)
    let N : Mesh := (2, 1, 1)
    ζ.1 ^ N.1 = 1 ∧ ζ.2.1 ^ N.2.1 = 1 ∧ ζ.2.2 ^ N.2.2 = 1 ∧
      IDFTContract N (boxChar ζ) (fun B m => sumK ((gridPoints N).map fun c => boxChar ζ m c * B c)) := by
  exact ⟨by norm_num, by norm_num, by norm_num, explicit_idft_satisfies_contract _ _⟩

/-- the slow-FT index on a concrete case: ζ = −1, N = 2, k = 3, R = −5: (k·R) mod 2 = 1 -/
example : slowPhase (-1 : ℚ) 2 3 (-5) = -1 := by decide +kernel

end WB.C02
