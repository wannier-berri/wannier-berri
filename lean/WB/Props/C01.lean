/-
  C01 — property theorems: q → R → k round trip with Wigner-Seitz / MDRS replica selection.

  Vocabulary:  `wsClass ws G mp tol s c`  = selected replicas (with `Ndegen`) of grid point `c` for shift `s`,
  `wsSelect`  = the whole selection of a shift in the order of the code,  `selOf … a b` = selection of the pair (a,b)
  (looked up through `shift_index`),  `iRvecOf` = `Rvectors.iRvec`,  `weightOf sel R` = `weights[iR,a,b]`,
  `placeK` = `set_fft_q_to_R`,  `qToR` = `q_to_R` for one matrix element,  `RtoK χ` = `Σ_R χ(R) X(R)`.
-/
import WB.Lemmas.C01Sqrt
import WB.Lemmas.C01DFT
import WB.Lemmas.C01Herm
import WB.Props.C02

namespace WB.C01

/-! ## T1 — replica weights -/

/-- T1.  For every Gram matrix, mesh, search size, non-zero tolerance, shift and grid point: the weights `1/Ndegen` of
    the selected replicas of that grid point sum to one (in every field of characteristic 0). -/
theorem ws_class_weight_one {K : Type} [Field K] [CharZero K]
    (ws : Nat) (G : Gram) (mp : Mesh) (tol : Rat) (s : QVec3) (c : Vec3) (htol : tol ≠ 0) :
    sumK ((wsClass ws G mp tol s c).map fun p => (((p.2 : Nat) : K))⁻¹) = 1 := by
  simpa only [one_mul] using sum_wsClass ws G mp tol s c htol (fun _ => (1 : K)) 1 fun _ _ => rfl

/-- T1 (corollary).  The accumulated replica weights of every pair (a,b) of Wannier functions, summed over the R list
    of the object, equal the number of mesh points — for any centres (inside/outside the home cell, coinciding or not),
    any lattice and any non-zero tolerance (negative = legacy convention). -/
theorem pair_weight_sum {K : Type} [Field K] [CharZero K]
    (ws : Nat) (G : Gram) (mp : Mesh) (tol : Rat) (cs : List QVec3) (a b : Nat)
    (htol : tol ≠ 0) (ha : a < cs.length) (hb : b < cs.length) :
    sumK ((iRvecOf ws G mp tol cs).map fun R => (weightOf (selOf ws G mp tol cs a b) R : K))
      = ((mp.1 * mp.2.1 * mp.2.2 : Nat) : K) := by
  -- the weighted-grid lemma at `χ = 1`, `g = 1`
  have hsub := selOf_sub_iRvecOf ws G mp tol cs a b ha hb
  rw [selOf_eq ws G mp tol cs a b ha hb] at hsub ⊢
  have h := RtoK_weighted_grid (K := K) ws G mp (absRat tol) _ (absRat_ne_zero tol htol) _ (nodup_iRvecOf ws G mp tol cs)
    hsub (fun _ => 1) (fun _ => rfl) (fun _ => 1)
  simp only [RtoK, one_mul, mul_one] at h
  rw [h, sumK_map_const, length_gridPoints, mul_one]

/-! ## T2 — selected replicas are congruent to their grid point -/

/-- T2.  Every selected replica `R` of grid point `c` is a searched replica `c + t∘mp`, satisfies `R mod mp = c`
    (this is the remap table of the code), its `Ndegen` is the (positive) number of selected replicas of the class,
    and therefore every mesh-periodic character takes the same value on `R` and on `c`. -/
theorem ws_replica_congruent {K : Type} (ws : Nat) (G : Gram) (mp : Mesh) (tol : Rat) (s : QVec3) (c : Vec3)
    (hc : c ∈ gridPoints mp) (p : Vec3 × Nat) (hp : p ∈ wsClass ws G mp tol s c) :
    vmod p.1 mp = c ∧ p.2 = (wsClass ws G mp tol s c).length ∧ 0 < p.2 ∧
      ∀ χ : Vec3 → K, MeshPeriodic mp χ → χ p.1 = χ c := by
  have hsel := (mem_wsClass ws G mp tol s c p).1 hp
  have hmod := vmod_candidate ws mp c p.1 hc (selClass_sub_candidates ws G mp tol s c p.1 hsel.1)
  refine ⟨hmod, ?_, ?_, ?_⟩
  · rw [hsel.2, wsClass_eq, List.length_map]
  · rw [hsel.2]
    exact List.length_pos_of_mem hsel.1
  · intro χ hχ
    rw [hχ p.1, hmod]

/-! ## T3 — the round trip -/

/-- T3 (general form).  Under the FFT contract, for the selection of ANY shift `s` with any non-zero tolerance, any
    duplicate-free R list containing the selected replicas, any duplicate-free placement of the k-points on the mesh
    (= any ordering of the mesh points), and data `X` in any field of characteristic 0 (no Hermiticity, positivity or
    non-degeneracy is used):   `Σ_R χ_q(R) · w(R) · Xgrid(R mod mp) = X(q)`  at every listed mesh point `q`. -/
theorem roundtrip_any_shift {K : Type} [Field K] [CharZero K]
    (ws : Nat) (G : Gram) (mp : Mesh) (tol : Rat) (s : QVec3) (htol : tol ≠ 0)
    (iRvec : List Vec3) (hnd : iRvec.Nodup) (hsub : ∀ p ∈ wsSelect ws G mp tol s, p.1 ∈ iRvec)
    (slots : List Vec3) (hslots : slots.Nodup) (hbox : ∀ q ∈ slots, q ∈ gridPoints mp)
    (χ : Vec3 → Vec3 → K) (hper : ∀ q, MeshPeriodic mp (χ q))
    (F : (Vec3 → K) → Vec3 → K) (Ninv : K) (hF : FFTContract mp χ F Ninv)
    (X : Nat → K) (i : Nat) (hi : i < slots.length) :
    RtoK (χ (slots.getD i (0, 0, 0))) iRvec (qToR F Ninv mp slots (weightOf (wsSelect ws G mp tol s)) X) = X i := by
  have hmem : slots.getD i (0, 0, 0) ∈ gridPoints mp := by
    apply hbox
    rw [List.getD_eq_getElem?_getD, List.getElem?_eq_getElem hi]
    exact List.getElem_mem hi
  exact (RtoK_weighted_grid ws G mp tol s htol iRvec hnd hsub _ (hper _) fun c => Ninv * F (place slots X) c).trans
    ((hF (place slots X) _ hmem).trans (place_slot slots hslots X i hi))

/-- what `set_fft_q_to_R` guarantees when it does not raise: the slots are distinct mesh points, as many as the mesh
    has, and Γ is among them (so the placement is a bijection onto the mesh, whatever the listing order). -/
theorem placement_is_bijection (mp : Mesh) (h1 : 0 < mp.1) (h2 : 0 < mp.2.1) (h3 : 0 < mp.2.2)
    (ks : List QVec3) (slots : List Vec3) (h : placeK mp ks = .ok slots) :
    slots.Nodup ∧ (∀ s ∈ slots, s ∈ gridPoints mp) ∧ slots.length = (gridPoints mp).length ∧
      ((0, 0, 0) : Vec3) ∈ slots := by
  -- `placeK` returns `.ok` only after each of its four tests has failed to raise
  obtain ⟨hcount, h⟩ := ite_error_eq_ok h
  obtain ⟨-, h⟩ := ite_error_eq_ok h
  obtain ⟨hgamma, h⟩ := ite_error_eq_ok h
  obtain ⟨hdup, h⟩ := ite_error_eq_ok h
  cases h
  refine ⟨nodup_of_length_dedup _ (not_not.1 hdup), fun s hs => ?_, ?_, ?_⟩
  · obtain ⟨R, -, rfl⟩ := List.mem_map.1 hs
    exact vmod_mem_gridPoints mp h1 h2 h3 R
  · rw [List.length_map, List.length_map, List.length_map, length_gridPoints]
    exact not_not.1 hcount
  · simpa only [Bool.not_eq_true', Bool.not_eq_false, List.contains_iff_mem] using hgamma

/-- T3 (the objects the code builds).  With the R list, shift classes, selections and weights that `set_Rvec` builds
    from the centres, and the mesh slots that `set_fft_q_to_R` accepts for the listed k-points: `q_to_R` followed by the
    explicit interpolation returns the input matrix element (a,b) at every mesh point, for every listing order. -/
theorem roundtrip {K : Type} [Field K] [CharZero K]
    (ws : Nat) (G : Gram) (mp : Mesh) (tol : Rat) (cs : List QVec3) (a b : Nat)
    (h1 : 0 < mp.1) (h2 : 0 < mp.2.1) (h3 : 0 < mp.2.2)
    (htol : tol ≠ 0) (ha : a < cs.length) (hb : b < cs.length)
    (ks : List QVec3) (slots : List Vec3) (hplace : placeK mp ks = .ok slots)
    (χ : Vec3 → Vec3 → K) (hper : ∀ q, MeshPeriodic mp (χ q))
    (F : (Vec3 → K) → Vec3 → K) (Ninv : K) (hF : FFTContract mp χ F Ninv)
    (X : Nat → K) (i : Nat) (hi : i < slots.length) :
    RtoK (χ (slots.getD i (0, 0, 0))) (iRvecOf ws G mp tol cs)
      (qToR F Ninv mp slots (weightOf (selOf ws G mp tol cs a b)) X) = X i := by
  obtain ⟨hnd, hbox, -, -⟩ := placement_is_bijection mp h1 h2 h3 ks slots hplace
  have hsub := selOf_sub_iRvecOf ws G mp tol cs a b ha hb
  rw [selOf_eq ws G mp tol cs a b ha hb] at hsub ⊢
  exact roundtrip_any_shift ws G mp (absRat tol) _ (absRat_ne_zero tol htol) _ (nodup_iRvecOf ws G mp tol cs) hsub
    slots hnd hbox χ hper F Ninv hF X i hi

/-- T3 (contract discharged).  The exact discrete Fourier transform on the mesh box satisfies `FFTContract` for every mesh,
    in every field of characteristic 0 that contains primitive roots of unity `ζ_i` of the three mesh orders (ℂ): the
    characters are `χ_q(R) = Π_i ζ_i^{q_i R_i}` (= `e^{2πi q·R/mp}`), they are mesh periodic, and the round trip of the
    objects the code builds is exact.  What stays trusted is only that numpy / FFTW compute this transform. -/
theorem roundtrip_exact_dft {K : Type} [Field K] [CharZero K]
    (ws : Nat) (G : Gram) (mp : Mesh) (tol : Rat) (cs : List QVec3) (a b : Nat)
    (h1 : 0 < mp.1) (h2 : 0 < mp.2.1) (h3 : 0 < mp.2.2)
    (htol : tol ≠ 0) (ha : a < cs.length) (hb : b < cs.length)
    (ks : List QVec3) (slots : List Vec3) (hplace : placeK mp ks = .ok slots)
    (ζ : K × K × K)
    (z1 : IsPrimitiveRoot ζ.1 mp.1) (z2 : IsPrimitiveRoot ζ.2.1 mp.2.1) (z3 : IsPrimitiveRoot ζ.2.2 mp.2.2)
    (X : Nat → K) (i : Nat) (hi : i < slots.length) :
    RtoK (WB.C02.boxChar ζ (slots.getD i (0, 0, 0))) (iRvecOf ws G mp tol cs)
      (qToR (dftBox (fun s c => (WB.C02.boxChar ζ s c)⁻¹) mp) (((mp.1 * mp.2.1 * mp.2.2 : Nat) : K))⁻¹ mp slots
        (weightOf (selOf ws G mp tol cs a b)) X) = X i := by
  have hN : ((mp.1 * mp.2.1 * mp.2.2 : Nat) : K) ≠ 0 := by
    have : mp.1 * mp.2.1 * mp.2.2 ≠ 0 := by positivity
    exact_mod_cast this
  exact roundtrip ws G mp tol cs a b h1 h2 h3 htol ha hb ks slots hplace (WB.C02.boxChar ζ)
    (fun q => WB.C02.boxChar_periodic ζ mp h1 h2 h3 z1.pow_eq_one z2.pow_eq_one z3.pow_eq_one q)
    _ _ (dft_FFTContract ζ mp z1 z2 z3 hN) X i hi

/-! ## remap_XX_R / do_ws_dist -/

/-- `remap_XX_R` (the core of `System_R.do_ws_dist`): an EXISTING real-space matrix element `(R_old, X_ab(R_old))` on any
    R list is folded onto the mesh box and redistributed over the Wigner-Seitz replicas of the pair (a,b) with their
    weights.  For every mesh-periodic character — i.e. at every k-point of the mesh — the k-space sum is unchanged:
    `Σ_{R ∈ new list} χ(R)·X_new(R) = Σ_{R_old} χ(R_old)·X_old(R_old)`; any lattice, mesh, centres, tolerance, old R list
    (also reaching beyond the mesh, where different old R collide) and data.  Together with
    `exclude_zeros_preserves_sums` this is the whole of `do_ws_dist`. -/
theorem ws_dist_preserves_mesh_values {K : Type} [Field K] [CharZero K]
    (ws : Nat) (G : Gram) (mp : Mesh) (tol : Rat) (cs : List QVec3) (a b : Nat)
    (h1 : 0 < mp.1) (h2 : 0 < mp.2.1) (h3 : 0 < mp.2.2)
    (htol : tol ≠ 0) (ha : a < cs.length) (hb : b < cs.length)
    (χ : Vec3 → K) (hper : MeshPeriodic mp χ) (entries : List (Vec3 × K)) :
    RtoK χ (iRvecOf ws G mp tol cs) (remapXXR mp (weightOf (selOf ws G mp tol cs a b)) entries)
      = WB.C02.explicitSum χ entries := by
  have hsub := selOf_sub_iRvecOf ws G mp tol cs a b ha hb
  rw [selOf_eq ws G mp tol cs a b ha hb] at hsub ⊢
  refine (RtoK_weighted_grid ws G mp (absRat tol) _ (absRat_ne_zero tol htol) _ (nodup_iRvecOf ws G mp tol cs) hsub
    χ hper (foldOnMesh mp entries)).trans ?_
  simp only [foldOnMesh_eq_placeOnBox]
  exact WB.C02.box_sum_eq_list_sum mp h1 h2 h3 χ hper entries

/-- non-vacuity: mesh (2,1,1), old entries at R = 0, 2e₁ (collide on the mesh) and e₁, weights of the zero shift:
    the new matrix is `[X(-1), X(0), X(1)] = [500, 11, 500]` (sum 1011 = 1 + 10 + 1000, the Γ-point sum of the old one). -/
example :
    let sel := wsSelect 1 ⟨1, 0, 0, 1, 0, 1⟩ (2, 1, 1) (1 / 1000) (0, 0, 0)
    let entries : List (Vec3 × Rat) := [((0, 0, 0), 1), ((2, 0, 0), 10), ((1, 0, 0), 1000)]
    [(-1, 0, 0), (0, 0, 0), (1, 0, 0)].map (remapXXR (2, 1, 1) (weightOf sel) entries) = [500, 11, 500] := by
  decide +kernel

/-! ## exclude_zeros (last step of `do_ws_dist`) -/

/-- `exclude_zeros` keeps exactly the R vectors at which some element of some matrix is big (`abs(x) > tolerance`),
    with their blocks unchanged. -/
theorem exclude_zeros_keeps_exactly {K : Type} (big : K → Bool) (blocks : List (Vec3 × List K)) (b : Vec3 × List K) :
    b ∈ excludeZeros big blocks ↔ b ∈ blocks ∧ ∃ x ∈ b.2, big x = true := by
  rw [excludeZeros, List.mem_filter, List.any_eq_true]

/-- Every k-space sum `Σ_R χ(R)·X_j(R)` (any character, any element index `j`) splits into the sum over the kept R
    vectors plus the sum over the dropped ones, and every element of a dropped block is not big; in particular, when
    only exact zeros are "not big", removing the blocks changes NO k-space sum — the round trip survives `exclude_zeros`. -/
theorem exclude_zeros_preserves_sums {K : Type} [Field K] (big : K → Bool) (blocks : List (Vec3 × List K))
    (χ : Vec3 → K) (j : Nat) :
    (sumK (blocks.map fun b => χ b.1 * b.2.getD j 0)
      = sumK ((excludeZeros big blocks).map fun b => χ b.1 * b.2.getD j 0)
        + sumK ((blocks.filter fun b => !(b.2.any big)).map fun b => χ b.1 * b.2.getD j 0)) ∧
    (∀ b ∈ blocks.filter (fun b => !(b.2.any big)), ∀ x ∈ b.2, big x = false) ∧
    ((∀ x, big x = false → x = 0) →
      sumK (blocks.map fun b => χ b.1 * b.2.getD j 0)
        = sumK ((excludeZeros big blocks).map fun b => χ b.1 * b.2.getD j 0)) := by
  have hdrop : ∀ b ∈ blocks.filter (fun b => !(b.2.any big)), ∀ x ∈ b.2, big x = false := by
    intro b hb x hx
    have h := (List.mem_filter.mp hb).2
    simp only [Bool.not_eq_true', List.any_eq_false] at h
    simpa using h x hx
  have hsplit := sumK_filter_split blocks (fun b => b.2.any big) (fun b => χ b.1 * b.2.getD j 0)
  refine ⟨hsplit, hdrop, fun hz => hsplit.trans ?_⟩
  rw [sumK_map_congr (blocks.filter fun b => !(b.2.any big)) _ (fun _ => (0 : K)), sumK_map_zero, add_zero]
  · rfl
  · intro b hb
    have h0 : b.2.getD j 0 = 0 := by
      rw [List.getD_eq_getElem?_getD]
      cases hget : b.2[j]? with
      | none => rfl
      | some x => simpa using hz x (hdrop b hb x (List.mem_of_getElem? hget))
    rw [h0, mul_zero]

/-- The rule "the largest element (numpy's real-part-first ordering of complex numbers) exceeds the tolerance" is NOT
    `exclude_zeros`: a lone hopping `t = −1` at `R = ±e₁` (or a purely imaginary block) is dropped although `|t| = 1`,
    and the k-space sum at Γ changes from `1 − 1 − 1 = −1` to `1`. -/
theorem max_without_abs_drops_nonzero_blocks :
    let blocks : List (Vec3 × List GRat) :=
      [((0, 0, 0), [⟨1, 0⟩]), ((1, 0, 0), [⟨-1, 0⟩]), ((-1, 0, 0), [⟨-1, 0⟩]), ((0, 1, 0), [⟨0, 1 / 2⟩]), ((0, -1, 0), [⟨0, -1 / 2⟩])]
    (excludeZeros (bigger (1 / 100000000)) blocks).map (·.1) = [(0, 0, 0), (1, 0, 0), (-1, 0, 0), (0, 1, 0), (0, -1, 0)] ∧
    (excludeZerosLexMax (1 / 100000000) blocks).map (·.1) = [(0, 0, 0)] := by
  decide +kernel

/-! ## the tolerance test -/

/-- The model decides the code's test `abs(dist - dist_min) < tolerance` exactly, in rational arithmetic: for the true
    distances `a = √q ≥ 0`, `b = √qmin ≥ 0` in any ordered field (ℝ included), `withinTol tol q qmin ↔ |a - b| < tol`. -/
theorem withinTol_is_the_code_test {K : Type} [Field K] [LinearOrder K] [IsStrictOrderedRing K]
    (tol q qmin : ℚ) (htol : 0 < tol) (hq : qmin ≤ q)
    (a b : K) (ha0 : 0 ≤ a) (hb0 : 0 ≤ b) (ha2 : a * a = (q : K)) (hb2 : b * b = (qmin : K)) :
    withinTol tol q qmin = true ↔ |a - b| < (tol : K) := by
  have hba : b ≤ a := by
    rw [mul_self_le_mul_self_iff hb0 ha0, ha2, hb2]
    exact Rat.cast_le.2 hq
  rw [abs_sub_lt_iff_squares hb0 hba (Rat.cast_pos.2 htol), ha2, hb2, withinTol, Bool.or_eq_true, decide_eq_true_eq,
    decide_eq_true_eq, ← Rat.cast_lt (K := K), ← Rat.cast_lt (K := K)]
  simp only [Rat.cast_sub, Rat.cast_mul, Rat.cast_zero, Rat.cast_ofNat]

/-- non-vacuity: `q = 25/4`, `qmin = 4` (distances 5/2 and 2) with tolerance 1: within; with tolerance 1/2: not -/
example : withinTol 1 (25 / 4) 4 = true ∧ withinTol (1 / 2) (25 / 4) 4 = false := by decide +kernel

/-! ## T4 — X(−R) = X(R)† -/

/-- T4 (per class).  Let `c' = (-c) mod mp`.  If the mirror image of every replica selected for shift `s` at `c` is
    among the searched replicas of `c'`, and vice versa for shift `-s` at `c'`, then the selection for `-s` at `c'` is
    exactly the mirror image of the selection for `s` at `c`, with the same `Ndegen` — i.e. the weights satisfy
    `w_ba(-R) = w_ab(R)` class by class.  The hypothesis is needed — see `far_centres_not_mirror` (finding F12);
    `hermitian_of_mirror` sums over the classes and conjugates the DFT. -/
theorem ws_mirror_partial (ws : Nat) (G : Gram) (mp : Mesh) (tol : Rat) (htol : tol ≠ 0) (s : QVec3) (c : Vec3)
    (h1 : 0 < mp.1) (h2 : 0 < mp.2.1) (h3 : 0 < mp.2.2)
    (H1 : ∀ p ∈ wsClass ws G mp tol s c, vneg p.1 ∈ candidates ws mp (mirrorClass c mp))
    (H2 : ∀ p ∈ wsClass ws G mp tol (qneg s) (mirrorClass c mp), vneg p.1 ∈ candidates ws mp c)
    (R : Vec3) (nd : Nat) :
    (R, nd) ∈ wsClass ws G mp tol s c ↔ (vneg R, nd) ∈ wsClass ws G mp tol (qneg s) (mirrorClass c mp) := by
  have hlen := selClass_mirror_length ws G mp tol s c htol _ h1 h2 h3 H1 H2
  have hmem := selClass_mirror ws G mp tol s c htol _ H1 H2 R
  rw [mem_wsClass, mem_wsClass]
  simp only
  rw [hmem, hlen]

/-- **T4 (full statement).**  Let the mirror hypothesis hold for the (rounded) shift of the pair (a,b) — every selected
    replica of `s` at every grid point `c`, and of `−s` at the mirror grid point, has its mirror image among the searched
    replicas (`MirrorInside`; this is exactly the condition the harness evaluates as "mirror image inside the search box").
    Let the input be Hermitian at every mesh point, `X_ba(q) = conj X_ab(q)`, in any field with an involution `star` and
    roots of unity `ζ_i` with `conj ζ_i = ζ_i⁻¹` (ℂ), and let the mesh transform be the exact DFT.  Then the real-space
    matrices that the model's `q_to_R` produces, with the R list, shift classes (`shift_index` look-up of (a,b) and of
    (b,a)), selections and weights that `set_Rvec` builds, satisfy   `X_ba(−R) = conj X_ab(R)`   for EVERY `R`.
    (`ws_mirror_partial` is the statement for one class.) -/
theorem hermitian_of_mirror {K : Type} [Field K] [StarRing K] [CharZero K]
    (ws : Nat) (G : Gram) (mp : Mesh) (tol : Rat) (cs : List QVec3) (a b : Nat)
    (h1 : 0 < mp.1) (h2 : 0 < mp.2.1) (h3 : 0 < mp.2.2)
    (htol : tol ≠ 0) (ha : a < cs.length) (hb : b < cs.length)
    (H : MirrorInside ws G mp (absRat tol) (shiftOf (numDigits tol) cs a b))
    (ζ : K × K × K) (c1 : star ζ.1 = ζ.1⁻¹) (c2 : star ζ.2.1 = ζ.2.1⁻¹) (c3 : star ζ.2.2 = ζ.2.2⁻¹)
    (z1 : ζ.1 ^ mp.1 = 1) (z2 : ζ.2.1 ^ mp.2.1 = 1) (z3 : ζ.2.2 ^ mp.2.2 = 1)
    (slots : List Vec3) (Xab Xba : Nat → K) (hX : ∀ i, Xba i = star (Xab i)) (R : Vec3) :
    let F := dftBox (fun q c => (WB.C02.boxChar ζ q c)⁻¹) mp
    let Ninv := (((mp.1 * mp.2.1 * mp.2.2 : Nat) : K))⁻¹
    qToR F Ninv mp slots (weightOf (selOf ws G mp tol cs b a)) Xba (vneg R)
      = star (qToR F Ninv mp slots (weightOf (selOf ws G mp tol cs a b)) Xab R) := by
  intro F Ninv
  rw [selOf_eq ws G mp tol cs b a hb ha, selOf_eq ws G mp tol cs a b ha hb, shiftOf_swap]
  apply qToR_hermitian ws G mp (absRat tol) _ h1 h2 h3 (absRat_ne_zero tol htol) H
  · intro q c
    rw [star_inv₀, star_boxChar ζ c1 c2 c3, boxChar_vneg]
  · intro q R'
    exact congrArg (·⁻¹) (WB.C02.boxChar_periodic ζ mp h1 h2 h3 z1 z2 z3 q R')
  · rw [star_inv₀, star_natCast]
  · exact hX

/-- non-vacuity of `hermitian_of_mirror`: the mirror hypothesis holds, e.g., for the simple cubic lattice, mesh (2,1,1),
    shift (¼, 0, 0) (search size 1 keeps the kernel evaluation short), and `ζ = (−1, 1, 1)` over ℚ with the trivial
    involution satisfies `conj ζ = ζ⁻¹`, `ζ_i^{mp_i} = 1`. -/
example : MirrorInside 1 ⟨1, 0, 0, 1, 0, 1⟩ (2, 1, 1) (1 / 1000) (1 / 4, 0, 0) := by
  unfold MirrorInside
  decide +kernel

section
attribute [local instance] starRingOfComm
example : star (-1 : ℚ) = (-1 : ℚ)⁻¹ ∧ ((-1 : ℚ)) ^ 2 = 1 := by
  constructor
  · rw [star_id_of_comm]; norm_num
  · norm_num
end

/-- The hypothesis of T4 cannot be dropped (finding F12).  Shown here by kernel evaluation for search size `ws = 1`
    (3³ searched replicas; the code uses `ws = 3`, where the same happens for centres ≳ 3 mesh periods apart, e.g.
    (0,0,0) and (6.2,0.1,0) on the mesh (2,1,1): that instance is executed at `ws = 3` by the correspondence run and
    observed on the real code by the oracle).  Simple cubic lattice, mesh (2,1,1), shift `s = (2.2, 0.1, 0)`:
    for `s` the replica `R = (-1,0,0)` is selected at grid point (1,0,0) (its true nearest image `(-3,0,0)` lies outside
    the search box), but for `-s` the replica `(3,0,0)` is selected, not `-R = (1,0,0)` — the R list is not inversion
    symmetric, so `X(-R) = X(R)†` fails, while the round trip (`roundtrip_any_shift`) still holds. -/
theorem far_centres_not_mirror :
    let G : Gram := ⟨1, 0, 0, 1, 0, 1⟩
    let s : QVec3 := (11 / 5, 1 / 10, 0)
    wsClass 1 G (2, 1, 1) (1 / 1000) s (1, 0, 0) = [((-1, 0, 0), 1)] ∧
    wsClass 1 G (2, 1, 1) (1 / 1000) (qneg s) (mirrorClass (1, 0, 0) (2, 1, 1)) = [((3, 0, 0), 1)] := by
  decide +kernel

/-! ## non-vacuity -/

/-- fcc-like Gram matrix, mesh (2,2,2), shift (¼,¼,¼): the selection has Wigner-Seitz boundary ties
    (grid point (0,1,1) has three equidistant replicas, each with weight ⅓).  (`ws = 1` keeps the kernel evaluation
    short; the driver evaluates the same class at `ws = 3` in every correspondence run.) -/
example :
    wsClass 1 ⟨1/2, 1/4, 1/4, 1/2, 1/4, 1/2⟩ (2, 2, 2) (1 / 1000) (1/4, 1/4, 1/4) (0, 1, 1)
      = [((0, -1, -1), 3), ((0, -1, 1), 3), ((0, 1, -1), 3)] := by decide +kernel

/-- a successful placement of a shuffled, shifted listing of the (2,1,1) mesh -/
example : placeK (2, 1, 1) [(3 / 2, -1, 0), (-2, 0, 5)] = .ok [(1, 0, 0), (0, 0, 0)] := by decide +kernel

/-- the hypotheses `FFTContract` / `MeshPeriodic` of the round trip are satisfiable: mesh (2,1,1) over ℚ with the
    character `χ_q(c) = (-1)^{q₁c₁}` and the explicit DFT `dftBox` as the transform. -/
example :
    let mp : Mesh := (2, 1, 1)
    let χ : Vec3 → Vec3 → ℚ := fun q c => if (q.1 * c.1) % 2 = 0 then 1 else -1
    FFTContract mp χ (dftBox χ mp) (1 / 2) ∧ ∀ q, MeshPeriodic mp (χ q) := by
  intro mp χ
  constructor
  · intro A s hs
    have hg : gridPoints mp = [(0, 0, 0), (1, 0, 0)] := rfl
    rw [hg] at hs
    simp only [dftBox, hg, List.map_cons, List.map_nil, sumK_cons, sumK_nil]
    simp only [List.mem_cons, List.not_mem_nil, or_false] at hs
    rcases hs with rfl | rfl <;> norm_num [χ] <;> ring
  · intro q R
    simp only [χ, vmod]
    have : (q.1 * (R.1 % ((2 : Nat) : Int))) % 2 = (q.1 * R.1) % 2 := by
      push_cast
      rw [Int.mul_emod, Int.emod_emod_of_dvd _ (dvd_refl _), ← Int.mul_emod]
    simp only [mp]
    rw [this]

end WB.C01
