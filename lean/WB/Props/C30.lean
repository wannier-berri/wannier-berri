/-
  C30 — property theorems: the C-order slot index is a bijection; every factorisation NKdiv × NKFFT produces every
  point of the dense grid exactly once; `to_grid` puts into the slot of a grid point exactly the values carried by
  that k-point (for any processing order, also with repeated k-points); `find_grid` recovers the grid of a complete
  set of k-points; every position of a band lies in one chunk of the text writer; a selected band gets the value of the
  degenerate group that contains it, in the order of the selection; component extraction is the corresponding algebraic
  operation.
-/
import WB.Lemmas.C30
import Mathlib.Tactic.Ring

namespace WB.C30

/-! ## T1 — the C-order index `kz + g₂(ky + g₁ kx)` -/

theorem cindex_lt (g p : N3) (h : inBox g p) : cindex g p < vol g :=
  calc cindex g p < g.2.2 * (g.2.1 * g.1) := digit_lt _ _ _ _ h.2.2 (digit_lt _ _ _ _ h.2.1 h.1)
    _ = vol g := by rw [vol, Nat.mul_comm g.2.2, Nat.mul_comm g.2.1]

/-- `unindex` (the grid point written into `k_new[s]`) inverts `cindex` … -/
theorem unindex_cindex (g p : N3) (h : inBox g p) : unindex g (cindex g p) = p := by
  unfold unindex cindex
  rw [Nat.mul_comm g.2.1 g.2.2, ← Nat.div_div_eq_div_mul, digit_div _ _ _ h.2.2, digit_div _ _ _ h.2.1,
    digit_mod _ _ _ h.2.1, digit_mod _ _ _ h.2.2]

/-- … on both sides: every slot `s < g₀g₁g₂` is the slot of exactly the grid point `k_new[s]`, which lies in the box. -/
theorem cindex_unindex (g : N3) (s : Nat) (hs : s < vol g) :
    cindex g (unindex g s) = s ∧ inBox g (unindex g s) := by
  obtain ⟨g0, g1, g2⟩ := g
  simp only [vol] at hs
  have hg2 : 0 < g2 := Nat.pos_of_ne_zero (fun h => by rw [h, Nat.mul_zero] at hs; exact absurd hs (Nat.not_lt_zero _))
  have hg1 : 0 < g1 := Nat.pos_of_ne_zero (fun h => by
    rw [h, Nat.mul_zero, Nat.zero_mul] at hs; exact absurd hs (Nat.not_lt_zero _))
  simp only [cindex, unindex, inBox]
  refine ⟨?_, ?_, Nat.mod_lt _ hg1, Nat.mod_lt _ hg2⟩
  · rw [Nat.mul_comm g1 g2, ← Nat.div_div_eq_div_mul, Nat.mod_add_div, Nat.mod_add_div]
  · rw [Nat.div_lt_iff_lt_mul (Nat.mul_pos hg1 hg2), ← Nat.mul_assoc]
    exact hs

theorem cindex_injective (g p q : N3) (hp : inBox g p) (hq : inBox g q) (h : cindex g p = cindex g q) : p = q := by
  rw [← unindex_cindex g p hp, ← unindex_cindex g q hq, h]

example : (List.range (vol (2, 3, 2))).map (unindex (2, 3, 2)) =
    [(0,0,0),(0,0,1),(0,1,0),(0,1,1),(0,2,0),(0,2,1),(1,0,0),(1,0,1),(1,1,0),(1,1,1),(1,2,0),(1,2,1)] := by decide +kernel

/-! ## T2 — every factorisation covers the dense grid exactly once -/

/-- Every point of the dense grid `NKdiv·NKFFT` is produced by exactly one (K-point, FFT point) pair: it occurs exactly
    once among the tabulated k-points, and nothing else occurs. -/
theorem tabPoints_cover (div fft : N3) (hd : 0 < div.1 ∧ 0 < div.2.1 ∧ 0 < div.2.2) (P : N3) :
    (inBox (dense div fft) P → (tabPoints div fft).count P = 1) ∧
    (¬ inBox (dense div fft) P → (tabPoints div fft).count P = 0) := by
  constructor
  · intro h
    exact List.count_eq_one_of_mem (tabPoints_nodup div fft) ((mem_tabPoints div fft P hd).2 h)
  · intro h
    exact List.count_eq_zero_of_not_mem (fun hm => h ((mem_tabPoints div fft P hd).1 hm))

/-- the slots of the tabulated k-points are exactly the slots `0 … vol − 1` of the dense grid, each once -/
theorem tabPoints_slots_perm (div fft : N3) (hd : 0 < div.1 ∧ 0 < div.2.1 ∧ 0 < div.2.2) :
    ((tabPoints div fft).map (cindex (dense div fft))).Perm (List.range (vol (dense div fft))) := by
  rw [List.perm_ext_iff_of_nodup ?_ List.nodup_range]
  · intro s
    simp only [List.mem_map, List.mem_range]
    constructor
    · rintro ⟨P, hP, rfl⟩
      exact cindex_lt _ _ ((mem_tabPoints div fft P hd).1 hP)
    · intro hs
      obtain ⟨h1, h2⟩ := cindex_unindex (dense div fft) s hs
      exact ⟨_, (mem_tabPoints div fft _ hd).2 h2, h1⟩
  · refine (tabPoints_nodup div fft).map_on ?_
    intro P hP Q hQ h
    exact cindex_injective _ P Q ((mem_tabPoints div fft P hd).1 hP) ((mem_tabPoints div fft Q hd).1 hQ) h

example : tabPoints (2, 1, 1) (1, 1, 2) = [(0,0,0),(0,0,1),(1,0,0),(1,0,1)] := by decide +kernel
example : tabPoints (1, 1, 2) (2, 1, 1) = [(0,0,0),(1,0,0),(0,0,1),(1,0,1)] := by decide +kernel

/-! ## T3 — `to_grid`: each slot receives the values of its own grid point -/

variable {K : Type} [Field K] [CharZero K]

/-- `pts`: ANY list of grid points (any order, repetitions allowed — symmetric copies, refinement passes), `data ik` the
    value tabulated for the `ik`-th.  If `P` occurs and all its occurrences carry the same value `v`, `to_grid` stores
    exactly `v` in the slot `cindex g P`: no other k-point contributes, and the average of equal values is the value. -/
theorem toGrid_own_value (g : N3) (pts : List N3) (hbox : ∀ p ∈ pts, inBox g p) (data : Nat → K)
    (P : N3) (hP : inBox g P) (hmem : P ∈ pts) (v : K)
    (hval : ∀ ik, ik < pts.length → pts.getD ik (0, 0, 0) = P → data ik = v) :
    toGrid g (pts.map (toQ g)) data (cindex g P) = some v := by
  have hkm : ∀ ik, ik ∈ kmap g (pts.map (toQ g)) (cindex g P) ↔ ik < pts.length ∧ pts.getD ik (0, 0, 0) = P := by
    intro ik
    rw [mem_kmap, List.length_map]
    refine and_congr_right fun hik => ?_
    have hin := hbox _ (List.getElem_mem hik)
    rw [List.getD_eq_getElem _ _ (by rwa [List.length_map]), List.getElem_map, List.getD_eq_getElem _ _ hik,
      slotOf_exact g _ hin, Option.some_inj]
    exact ⟨cindex_injective g _ _ hin hP, fun h => h ▸ rfl⟩
  have hne : kmap g (pts.map (toQ g)) (cindex g P) ≠ [] := by
    obtain ⟨ik, hik, he⟩ := List.getElem_of_mem hmem
    exact List.ne_nil_of_mem ((hkm ik).2 ⟨hik, (List.getD_eq_getElem _ _ hik).trans he⟩)
  unfold toGrid
  rw [if_neg (by rwa [List.isEmpty_iff]),
    mean_of_const _ hne data v (fun ik hik => hval ik ((hkm ik).1 hik).1 ((hkm ik).1 hik).2)]

/-- Tabulation on a grid.  For the k-points of a factorisation collected in ANY order (serial or parallel evaluation),
    every slot `s` of the C-ordered output holds the value of exactly one tabulated k-point, the grid point
    `k_new[s] = unindex s`. -/
theorem tabulate_grid (div fft : N3) (hd : 0 < div.1 ∧ 0 < div.2.1 ∧ 0 < div.2.2)
    (pts : List N3) (hperm : pts.Perm (tabPoints div fft)) (data : Nat → K) (s : Nat)
    (hs : s < vol (dense div fft)) :
    ∃ ik, ik < pts.length ∧ pts.getD ik (0, 0, 0) = unindex (dense div fft) s ∧
      (∀ jk, jk < pts.length → pts.getD jk (0, 0, 0) = unindex (dense div fft) s → jk = ik) ∧
      toGrid (dense div fft) (pts.map (toQ (dense div fft))) data s = some (data ik) := by
  obtain ⟨h1, h2⟩ := cindex_unindex (dense div fft) s hs
  have hmem : unindex (dense div fft) s ∈ pts := hperm.mem_iff.2 ((mem_tabPoints div fft _ hd).2 h2)
  have hnd : pts.Nodup := hperm.nodup_iff.2 (tabPoints_nodup div fft)
  obtain ⟨ik, hik, he⟩ := List.getElem_of_mem hmem
  have huniq : ∀ jk, jk < pts.length → pts.getD jk (0, 0, 0) = unindex (dense div fft) s → jk = ik := by
    intro jk hjk hj
    rw [List.getD_eq_getElem _ _ hjk, ← he] at hj
    exact (List.Nodup.getElem_inj_iff hnd).1 hj
  refine ⟨ik, hik, (List.getD_eq_getElem _ _ hik).trans he, huniq, ?_⟩
  rw [← h1]
  exact toGrid_own_value (dense div fft) pts (fun p hp => (mem_tabPoints div fft p hd).1 (hperm.mem_iff.1 hp)) data _ h2
    hmem (data ik) (fun jk hjk hj => by rw [huniq jk hjk hj])

/-- non-vacuity: a 2×1×2 grid collected in a scrambled order with a repeated point -/
example : (List.range 4).map (toGrid (K := Rat) (2, 1, 2)
      ([(1,0,1), (0,0,0), (1,0,0), (0,0,1), (1,0,1)].map (toQ (2, 1, 2))) (fun ik => [7, 1, 3, 2, 7].getD ik 0))
    = [some 1, some 2, some 3, some 7] := by decide +kernel

/-! ## T4 — `find_grid` -/

/-- For a complete set of k-points along one direction (every `n/g`, `n < g`, occurs — in any order, any number of
    times — and nothing else), `find_grid` returns `g`. -/
theorem findGrid1_complete (g : Nat) (hg : 0 < g) (coords : List Rat)
    (h1 : ∀ c ∈ coords, ∃ n : Nat, n < g ∧ c = (n : Rat) / g)
    (h2 : ∀ n : Nat, n < g → (n : Rat) / g ∈ coords) :
    findGrid1 coords = g := by
  have hgQ : (0 : Rat) < g := by exact_mod_cast hg
  have hone : (1 : Rat) = (g : Rat) / g := (div_self hgQ.ne').symm
  have hperm := sortQ_perm (coords ++ [1])
  have hsorted := sortQ_sorted (coords ++ [1])
  unfold findGrid1
  generalize sortQ (coords ++ [1]) = s at hperm hsorted
  have hgrid : ∀ c ∈ s, ∃ n : Nat, n ≤ g ∧ c = (n : Rat) / g := by
    intro c hc
    rcases List.mem_append.1 (hperm.mem_iff.1 hc) with h | h
    · obtain ⟨n, hn, rfl⟩ := h1 c h; exact ⟨n, Nat.le_of_lt hn, rfl⟩
    · exact ⟨g, le_refl _, (List.mem_singleton.1 h).trans hone⟩
  have hone_mem : (1 : Rat) ∈ s := hperm.mem_iff.2 (List.mem_append_right _ (List.mem_singleton_self 1))
  have hall : ∀ n : Nat, n ≤ g → (n : Rat) / g ∈ s := by
    intro n hn
    rcases Nat.lt_or_eq_of_le hn with h | rfl
    · exact hperm.mem_iff.2 (List.mem_append_left _ (h2 n h))
    · rwa [← hone]
  -- two neighbours `k/g ≤ m/g` of the sorted list have `m ≤ k+1`, since `(k+1)/g` is a member and not between them
  have hgap : ∀ d ∈ gaps s, d ≤ 1 / (g : Rat) ∧ (0 < d → 1 / (g : Rat) ≤ d) := by
    intro d hd
    obtain ⟨a, ha, b, hb, rfl, hbt⟩ := mem_gaps_sorted s hsorted d hd
    obtain ⟨k, _, rfl⟩ := hgrid a ha
    obtain ⟨m, hm, rfl⟩ := hgrid b hb
    have hle := natCast_div_le_div_iff g hg
    -- in numerators the claim is `m ≤ k + 1 ∧ (k < m → k + 1 ≤ m)`
    rw [sub_le_iff_le_add', le_sub_iff_add_le', sub_pos, ← natCast_succ_div, hle, hle, lt_iff_not_ge, hle, not_le]
    refine ⟨?_, id⟩
    by_contra hkm
    rcases hbt _ (hall (k + 1) (by omega)) with h | h
    · exact absurd ((hle _ _).1 h) (by omega)
    · exact hkm ((hle _ _).1 h)
  obtain ⟨d, hd, hpos⟩ := exists_pos_gap s hsorted 0 (by simpa using hall 0 (Nat.zero_le _)) 1 hone_mem zero_lt_one
  have hmax : maxQ (gaps s) = 1 / (g : Rat) :=
    le_antisymm (hgap _ (maxQ_spec _ (List.ne_nil_of_mem hd)).1).1
      (((hgap d hd).2 hpos).trans ((maxQ_spec _ (List.ne_nil_of_mem hd)).2 d hd))
  rw [hmax, one_div_one_div]
  exact_mod_cast rint_int (g : Int)

/-- the three directions together: a complete `g₀×g₁×g₂` grid (any order of the points) is recognised -/
theorem findGrid_complete (g : N3) (hg : 0 < g.1 ∧ 0 < g.2.1 ∧ 0 < g.2.2) (pts : List N3)
    (hbox : ∀ p ∈ pts, inBox g p) (hall : ∀ p, inBox g p → p ∈ pts) :
    findGrid (pts.map (toQ g)) = ((g.1 : Int), (g.2.1 : Int), (g.2.2 : Int)) := by
  -- one direction: the coordinate `proj` of the points runs over all of `0 … gi-1`
  have axis : ∀ (gi : Nat) (proj : N3 → Nat), 0 < gi → (∀ p ∈ pts, proj p < gi) → (∀ n < gi, ∃ p ∈ pts, proj p = n) →
      findGrid1 (pts.map (fun p => (proj p : Rat) / gi)) = gi := by
    intro gi proj hgi hlt hsurj
    refine findGrid1_complete gi hgi _ (fun c hc => ?_) (fun n hn => ?_)
    · obtain ⟨p, hp, rfl⟩ := List.mem_map.1 hc
      exact ⟨proj p, hlt p hp, rfl⟩
    · obtain ⟨p, hp, rfl⟩ := hsurj n hn
      exact List.mem_map.2 ⟨p, hp, rfl⟩
  simp only [findGrid, List.map_map, Function.comp_def, toQ]
  exact Prod.ext
    (axis g.1 (·.1) hg.1 (fun p hp => (hbox p hp).1) (fun n hn => ⟨(n, 0, 0), hall _ ⟨hn, hg.2.1, hg.2.2⟩, rfl⟩))
    (Prod.ext
      (axis g.2.1 (·.2.1) hg.2.1 (fun p hp => (hbox p hp).2.1) (fun n hn => ⟨(0, n, 0), hall _ ⟨hg.1, hn, hg.2.2⟩, rfl⟩))
      (axis g.2.2 (·.2.2) hg.2.2 (fun p hp => (hbox p hp).2.2) (fun n hn => ⟨(0, 0, n), hall _ ⟨hg.1, hg.2.1, hn⟩, rfl⟩)))

/-- … in particular for the k-points of every factorisation, in any order -/
theorem findGrid_tabPoints (div fft : N3) (hd : 0 < div.1 ∧ 0 < div.2.1 ∧ 0 < div.2.2)
    (hf : 0 < fft.1 ∧ 0 < fft.2.1 ∧ 0 < fft.2.2) (pts : List N3) (hperm : pts.Perm (tabPoints div fft)) :
    findGrid (pts.map (toQ (dense div fft)))
      = (((dense div fft).1 : Int), ((dense div fft).2.1 : Int), ((dense div fft).2.2 : Int)) := by
  apply findGrid_complete
  · exact ⟨Nat.mul_pos hd.1 hf.1, Nat.mul_pos hd.2.1 hf.2.1, Nat.mul_pos hd.2.2 hf.2.2⟩
  · intro p hp; exact (mem_tabPoints div fft p hd).1 (hperm.mem_iff.1 hp)
  · intro p hp; exact hperm.mem_iff.2 ((mem_tabPoints div fft p hd).2 hp)

example : findGrid ([(1,0,2), (0,0,0), (1,0,0), (0,0,1), (0,0,2), (1,0,1)].map (toQ (2, 1, 3))) = (2, 1, 3) := by
  decide +kernel

/-! ## the text writer: every grid point lies in exactly one chunk of the writer processes

  (`chunkWrite`, the text itself, is checked on the instances of `chunk_examples` only) -/

/-- every position `p < n` of the flattened (C-ordered) band lies in exactly one of the chunks
    `[(i, i+npp) for i in range(0, n, npp)]` -/
theorem chunk_cover (n npp p : Nat) (hnpp : 0 < npp) (hp : p < n) :
    ∃ c, (c * npp, c * npp + npp) ∈ chunkBounds n npp ∧ c * npp ≤ p ∧ p < c * npp + npp ∧
      ∀ c', c' * npp ≤ p → p < c' * npp + npp → c' = c := by
  refine ⟨p / npp, ?_, Nat.div_mul_le_self p npp, Nat.lt_div_mul_add hnpp,
    fun c' h1 h2 => (Nat.div_eq_of_lt_le h1 (by rwa [Nat.succ_mul])).symm⟩
  refine List.mem_map.2 ⟨p / npp, List.mem_range.2 ?_, rfl⟩
  rw [Nat.lt_iff_add_one_le, Nat.le_div_iff_mul_le hnpp, Nat.succ_mul]
  have := Nat.div_mul_le_self p npp
  omega

/-- the chunk length that `_savetxt` chooses meets the hypothesis `0 < npp` of `chunk_cover` -/
theorem nppproc_pos (n npar : Nat) (hn : 0 < n) (hnpar : 0 < npar) : 0 < nppproc n npar := by
  unfold nppproc
  by_cases h : n % npar > 0
  · rw [if_pos h]; exact Nat.succ_pos _
  · rw [if_neg h, Nat.add_zero]
    exact Nat.div_pos (Nat.le_of_dvd hn (Nat.dvd_of_mod_eq_zero (Nat.eq_zero_of_not_pos h))) hnpar

/-- concrete sizes, and the 'balanced arange' variant, which drops the tail when `n` is not a multiple of the chunk -/
theorem chunk_examples :
    chunkWrite (List.range 27) (nppproc 27 2) = List.range 27 ∧
    chunkWrite (List.range 6) (nppproc 6 4) = List.range 6 ∧
    chunkWrite (List.range 1) (nppproc 1 3) = List.range 1 ∧
    chunkBoundsArange 27 (27 / 2) = [(0, 13), (13, 26)] := by
  decide +kernel

/-! ## T5 — which degenerate group supplies a selected band -/

/-- If the band groups do not overlap, a selected band gets the value of THE group that contains it. -/
theorem groupOf_spec (groups : List (Nat × Nat)) (ibands : List Nat) (ib : Nat) (n : Nat × Nat)
    (hn : n ∈ groups) (hc : n.1 ≤ ib ∧ ib < n.2) (hib : ib ∈ ibands)
    (hdisj : ∀ m ∈ groups, m.1 ≤ ib → ib < m.2 → m = n) :
    groupOf groups ibands ib = some n := by
  unfold groupOf
  have hneeded : n ∈ neededGroups groups ibands :=
    List.mem_filter.2 ⟨hn, List.any_eq_true.2 ⟨ib, hib, by simp [hc.1, hc.2]⟩⟩
  cases hf : (neededGroups groups ibands).find? (fun n => decide (ib < n.2) && decide (n.1 ≤ ib)) with
  | none => exact absurd (List.find?_eq_none.1 hf n hneeded) (by simp [hc.1, hc.2])
  | some m =>
    have hp := List.find?_some hf
    simp only [Bool.and_eq_true, decide_eq_true_eq] at hp
    rw [hdisj m (List.mem_filter.1 (List.mem_of_find?_eq_some hf)).1 hp.2 hp.1]

/-- T5' (column order).  The band axis of the tabulated array follows the selection AS GIVEN: as many columns as
    entries (repetitions included), and column `j` is the value of the group of band `ibands[j]` — no sorting, no
    merging of repeated entries. -/
theorem tabBands_order {V : Type} (groups : List (Nat × Nat)) (ibands : List Nat) (values : Nat × Nat → V) :
    (tabBands groups ibands values).length = ibands.length ∧
    ∀ j (hj : j < ibands.length),
      (tabBands groups ibands values)[j]? = some ((groupOf groups ibands ibands[j]).map values) := by
  constructor
  · simp [tabBands]
  · intro j hj
    simp [tabBands, List.getElem?_map, List.getElem?_eq_getElem hj]

/-- … with non-overlapping groups that cover the selected bands: column `j` is exactly the group containing
    `ibands[j]`, whatever the order of the selection -/
theorem tabBands_column (groups : List (Nat × Nat)) (ibands : List Nat) (j : Nat) (hj : j < ibands.length)
    (n : Nat × Nat) (hn : n ∈ groups) (hc : n.1 ≤ ibands[j] ∧ ibands[j] < n.2)
    (hdisj : ∀ m ∈ groups, m.1 ≤ ibands[j] → ibands[j] < m.2 → m = n) :
    (tabBands groups ibands id)[j]? = some (some n) := by
  rw [(tabBands_order groups ibands id).2 j hj,
    groupOf_spec groups ibands ibands[j] n hn hc (List.getElem_mem hj) hdisj]
  rfl

/-- 'sort (np.unique) the selection first' breaks it: for the selection [3,0,2] of four non-degenerate bands the
    user's column 0 is band 3, the sorted variant returns band 0 there; a repeated entry loses a column. -/
theorem unique_first_permutes_columns :
    let groups := [(0, 1), (1, 2), (2, 3), (3, 4)]
    tabBands groups [3, 0, 2] id = [some (3, 4), some (0, 1), some (2, 3)] ∧
    tabBandsUnique groups [3, 0, 2] id = [some (0, 1), some (2, 3), some (3, 4)] ∧
    (tabBands groups [2, 2, 0] id).length = 3 ∧ (tabBandsUnique groups [2, 2, 0] id).length = 2 := by
  decide +kernel

/-! ## T6 — components -/

/-- `T` is an array with exactly `ndim` tensor axes: positions beyond them are never read -/
def HasRank {F : Type} (ndim : Nat) (T : TArr F) : Prop :=
  ∀ v t t', (∀ a, a < ndim → t a = t' a) → T v t = T v t'

variable {F : Type} [Field F]

omit [Field F] in
/-- a full word `'xy…'` (axes moved to the front, then indexed) picks the same element as the index tuple
    `(0,1,…)` (last axes stripped one by one): the two code paths of `get_component` agree. -/
theorem compLetters_eq_compTuple (cs : List Nat) (T : TArr F) (hT : HasRank cs.length T) (v t : Nat → Nat) :
    compLetters cs T v t = compTuple cs.length cs T v t := by
  unfold compLetters compTuple
  apply hT
  intro a ha
  simp [ha]

omit [Field F] in
/-- `'x'|'y'|'z'` of a vector, a word of a tensor and an index tuple are the element with those indices:
    the value does not depend on anything but that element. -/
theorem compTuple_full (cs : List Nat) (T : TArr F) (hT : HasRank cs.length T) (v t : Nat → Nat) :
    compTuple cs.length cs T v t = T v (fun a => cs.getD a 0) := by
  unfold compTuple
  apply hT
  intro a ha
  simp

omit [Field F] in
/-- a shorter tuple fixes the LAST axes and keeps the leading tensor axes free -/
theorem compTuple_partial (ndim : Nat) (cs : List Nat) (t : Nat → Nat) (a : Nat) :
    (a < ndim - cs.length →
      (fun a => if a < ndim - cs.length then t a else cs.getD (a - (ndim - cs.length)) 0) a = t a) ∧
    (ndim - cs.length ≤ a →
      (fun a => if a < ndim - cs.length then t a else cs.getD (a - (ndim - cs.length)) 0) a
        = cs.getD (a - (ndim - cs.length)) 0) := by
  constructor
  · intro h; simp [h]
  · intro h; simp [Nat.not_lt.2 h]

/-- index tuples, words and the trace are linear in the tensor (`'norm'` and `'sq'` are not) -/
theorem comp_linear (ndim : Nat) (cs : List Nat) (T U : TArr F) (c d : F) (v t : Nat → Nat) :
    compTuple ndim cs (fun v t => c * T v t + d * U v t) v t
        = c * compTuple ndim cs T v t + d * compTuple ndim cs U v t ∧
    compLetters cs (fun v t => c * T v t + d * U v t) v t
        = c * compLetters cs T v t + d * compLetters cs U v t ∧
    compTrace (fun v t => c * T v t + d * U v t) v = c * compTrace T v + d * compTrace U v := by
  refine ⟨rfl, rfl, ?_⟩
  simp only [compTrace]
  ring

/-- `"trace"` is the sum of the three diagonal components `xx…x + yy…y + zz…z` -/
theorem compTrace_eq_diag (ndim : Nat) (T : TArr F) (hT : HasRank ndim T) (v t : Nat → Nat) :
    compTrace T v = compLetters (List.replicate ndim 0) T v t + compLetters (List.replicate ndim 1) T v t
                  + compLetters (List.replicate ndim 2) T v t := by
  have h : ∀ i, compLetters (List.replicate ndim i) T v t = T v (fun _ => i) := by
    intro i
    unfold compLetters
    apply hT
    intro a ha
    simp [ha, List.getD_eq_getElem?_getD]
  rw [h 0, h 1, h 2]
  rfl

/-- `'sq'` is `Σ_i d_i · conj(d_i)` over the three components of each (k, band) element separately, and
    `'norm'` squared is `'sq'` for any square-root function -/
theorem compNorm_sq (sqrt cj : F → F) (hsqrt : ∀ x, sqrt x * sqrt x = x) (T : TArr F) (hT : HasRank 1 T)
    (v t : Nat → Nat) :
    compNorm sqrt cj T v * compNorm sqrt cj T v = compSq cj T v ∧
    compSq cj T v = compTuple 1 [0] T v t * cj (compTuple 1 [0] T v t)
                  + compTuple 1 [1] T v t * cj (compTuple 1 [1] T v t)
                  + compTuple 1 [2] T v t * cj (compTuple 1 [2] T v t) := by
  refine ⟨hsqrt _, ?_⟩
  have h : ∀ i, compTuple 1 [i] T v t = T v (fun _ => i) := by
    intro i
    unfold compTuple
    apply hT
    intro a ha
    have : a = 0 := by omega
    subst this
    simp
  rw [h 0, h 1, h 2]
  rfl

theorem words_length (n : Nat) : (words n).length = 3 ^ n := by
  induction n with
  | zero => rfl
  | succ n ih =>
    simp only [words, List.flatMap_cons, List.flatMap_nil, List.length_append, List.length_map, ih, List.length_nil]
    ring

theorem words_mem_length (n : Nat) (w : List Nat) (hw : w ∈ words n) : w.length = n := by
  induction n generalizing w with
  | zero => simp [words] at hw; subst hw; rfl
  | succ n ih =>
    simp only [words, List.mem_flatMap, List.mem_map] at hw
    obtain ⟨c, _, w', hw', rfl⟩ := hw
    simp [ih w' hw']

/-- `get_component_list`: `3^dim` words, plus "trace" from rank 2 on; `[None]` for scalars -/
theorem componentList_length (dim : Nat) :
    (componentList dim).length = if dim = 0 then 1 else 3 ^ dim + (if dim ≥ 2 then 1 else 0) := by
  unfold componentList
  split
  · rfl
  · simp only [List.length_append, List.length_map, words_length]
    split <;> rfl

/-- every component offered by `get_component_list` can be extracted and is a scalar per (k, band) -/
theorem componentList_valid (dim : Nat) (sp : Spec) (h : sp ∈ componentList dim) : compBranch dim sp = .ok 0 := by
  unfold componentList at h
  split at h
  · rename_i h0
    rw [List.mem_singleton.1 h, h0]
    rfl
  · rename_i h0
    rcases List.mem_append.1 h with h | h
    · obtain ⟨w, hw, rfl⟩ := List.mem_map.1 h
      simp only [compBranch, h0, if_false, words_mem_length dim w hw]
      split <;> simp
    · split at h
      · rename_i h2
        rw [List.mem_singleton.1 h]
        simp [compBranch, h2]
      · cases h

example : componentList 1 = [.letters [0], .letters [1], .letters [2]] := by decide +kernel
example : (componentList 2).length = 10 := by decide +kernel

end WB.C30
