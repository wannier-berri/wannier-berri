/-
  C17 — property theorems: one smoother (linear, constants, axis-local, commuting axes), `dataSmooth` as the composition
  over all energy axes in any order, the memoised `dataSmooth` under any history of reads, in-place adds and derived
  results, the original loop and cache handling (finding F1), `get_smoother`.  `K` is any field (ℝ, ℂ, ℚ …).
-/
import WB.Lemmas.C17

namespace WB.C17
open Finset

variable {K : Type} [Field K]

/-! ## one smoother -/

/-- T1 (linear).  `s(c·A + d·B) = c·s(A) + d·s(B)` along any axis; no hypothesis on the kernel (also when a window sum
    vanishes). -/
theorem smoother_linear (s : Smoother K) (a : Nat) (A B : Arr K) (c d : K) :
    smoothAxis s a (fun x => c * A x + d * B x) = fun x => c * smoothAxis s a A x + d * smoothAxis s a B x := by
  funext idx
  exact smooth1_linear s (fun j => A (upd idx a j)) (fun j => B (upd idx a j)) c d (idx a)

/-- T2 (constants).  A constant array is mapped to the same constant wherever the window sum of the kernel is
    non-zero. -/
theorem smoother_const (s : Smoother K) (a : Nat) (c : K) (idx : Nat → Nat) (h : wsum s (idx a) ≠ 0) :
    smoothAxis s a (fun _ => c) idx = c :=
  smooth1_const s c (idx a) h

/-- T2' — the hypothesis of T2 holds for every positive kernel (Fermi-Dirac `1/cosh²`, Gaussian `exp`) at every
    position inside the array. -/
theorem smoother_const_of_pos {F : Type} [Field F] [LinearOrder F] [IsStrictOrderedRing F]
    (s : Smoother F) (a : Nat) (c : F) (idx : Nat → Nat) (hi : idx a < s.NE)
    (hpos : ∀ k, k ≤ 2 * s.NE1 → 0 < s.smt k) :
    smoothAxis s a (fun _ => c) idx = c :=
  smoother_const s a c idx (ne_of_gt (wsum_pos s (idx a) hi hpos))

example : ∀ i < 5, 0 < wsum (mkSmoother 5 2 [1, 2, 4, 2, 1]) i := by decide +kernel

/-- T3 (axis-local, reads).  The output at `idx` depends only on the inputs on the line through `idx` along axis `a`,
    inside the window `[max(0,i-NE1), min(NE,i+NE1+1))`. -/
theorem smoother_axis_local (s : Smoother K) (a : Nat) (A B : Arr K) (idx : Nat → Nat)
    (h : ∀ j, wstart s (idx a) ≤ j → j < wend s (idx a) → A (upd idx a j) = B (upd idx a j)) :
    smoothAxis s a A idx = smoothAxis s a B idx :=
  smooth1_congr s _ _ (idx a) h

/-- T3' (other axes are spectators).  Multiplying by an array that does not depend on the position along axis `a`
    commutes with smoothing along `a`. -/
theorem smoother_other_axes_linear (s : Smoother K) (a : Nat) (w A : Arr K)
    (hw : ∀ idx j, w (upd idx a j) = w idx) :
    smoothAxis s a (fun x => w x * A x) = fun x => w x * smoothAxis s a A x := by
  funext idx
  show smooth1 s (fun j => w (upd idx a j) * A (upd idx a j)) (idx a) = _
  simp only [hw]
  exact smooth1_smul s _ _ _

/-- T3'' the pass along axis `a` is the 1-D rule on each fibre (definitional in the model; the correspondence check ties
    it to the transposes of the code). -/
theorem smoother_fibre (s : Smoother K) (a : Nat) (A : Arr K) (idx : Nat → Nat) :
    smoothAxis s a A idx = smooth1 s (fun j => A (upd idx a j)) (idx a) := rfl

/-- T4 (commute).  Smoothers of different axes commute, for arbitrary (also different) kernels. -/
theorem smoothers_commute (s t : Smoother K) (a b : Nat) (hab : a ≠ b) (A : Arr K) :
    smoothAxis s a (smoothAxis t b A) = smoothAxis t b (smoothAxis s a A) :=
  smoothAxis_comm s t hab A

/-! ## `EnergyResult.dataSmooth` -/

/-- T5 (all axes, any order).  `dataSmooth` is the raw data passed through the smoother of every energy axis, in any
    order `l`; void slots are skipped. -/
theorem dataSmooth_any_order (sm : Nat → Option (Smoother K)) (nE : Nat) (A : Arr K) (l : List Nat)
    (hl : l.Perm (List.range nE)) :
    dataSmooth sm nE A = applyAxes sm l A := by
  unfold dataSmooth
  exact applyAxes_perm sm ((List.reverse_perm _).trans hl.symm) A

/-- T5 for two energy axes (Efermi × Omega). -/
theorem dataSmooth_two_axes (sm : Nat → Option (Smoother K)) (A : Arr K) :
    dataSmooth sm 2 A = applySm (sm 0) 0 (applySm (sm 1) 1 A) ∧
    dataSmooth sm 2 A = applySm (sm 1) 1 (applySm (sm 0) 0 A) := by
  constructor
  · rfl
  · exact dataSmooth_any_order sm 2 A [0, 1] (List.Perm.refl _)

example : [2, 0, 1].Perm (List.range 3) := by decide +kernel

/-- T6 (void).  A result whose smoothers are all void is unchanged. -/
theorem dataSmooth_void (sm : Nat → Option (Smoother K)) (nE : Nat) (A : Arr K)
    (h : ∀ i, i < nE → sm i = none) : dataSmooth sm nE A = A :=
  applyAxes_induction sm (· = A) _ (fun a ha B hB => by
    rw [h a (List.mem_range.1 (List.mem_reverse.1 ha))]; exact hB) A rfl

/-- T1 lifted: `dataSmooth` is linear. -/
theorem dataSmooth_linear (sm : Nat → Option (Smoother K)) (nE : Nat) (A B : Arr K) (c d : K) :
    dataSmooth sm nE (fun x => c * A x + d * B x)
      = fun x => c * dataSmooth sm nE A x + d * dataSmooth sm nE B x := by
  unfold dataSmooth
  generalize (List.range nE).reverse = l
  induction l generalizing A B with
  | nil => rfl
  | cons a l ih =>
    simp only [applyAxes]
    cases hs : sm a with
    | none => simp only [applySm]; exact ih A B
    | some s => simp only [applySm]; rw [smoother_linear]; exact ih _ _

/-- T1' (homogeneous, no threshold).  `dataSmooth(c·A) = c·dataSmooth(A)` for EVERY scalar `c`, however small:
    there is no magnitude below which a result may be left unsmoothed. -/
theorem dataSmooth_homogeneous (sm : Nat → Option (Smoother K)) (nE : Nat) (A : Arr K) (c : K) :
    dataSmooth sm nE (fun x => c * A x) = fun x => c * dataSmooth sm nE A x := by
  have h := dataSmooth_linear sm nE A (fun _ => 0) c 0
  simp only [mul_zero, add_zero, zero_mul] at h
  exact h

/-- T2 lifted: with positive kernels `dataSmooth` maps a constant array to the same constant at every position
    inside the array. -/
theorem dataSmooth_const {F : Type} [Field F] [LinearOrder F] [IsStrictOrderedRing F]
    (sm : Nat → Option (Smoother F)) (nE : Nat) (c : F)
    (hpos : ∀ a s, sm a = some s → ∀ k, k ≤ 2 * s.NE1 → 0 < s.smt k)
    (idx : Nat → Nat) (hin : ∀ a s, sm a = some s → idx a < s.NE) :
    dataSmooth sm nE (fun _ => c) idx = c := by
  -- invariant of the passes: the array is `c` at every in-bounds multi-index
  refine applyAxes_induction sm (fun B => ∀ j : Nat → Nat, (∀ a s, sm a = some s → j a < s.NE) → B j = c) _ ?_ _
    (fun _ _ => rfl) idx hin
  intro a _ B hB j hj
  cases hs : sm a with
  | none => exact hB j hj
  | some s =>
    refine (smoother_axis_local s a B (fun _ => c) j fun k _ hk => hB _ fun b s' hs' => ?_).trans
      (smoother_const_of_pos s a c j (hj a s hs) (hpos a s hs))
    by_cases hba : b = a
    · subst hba
      rw [hs] at hs'; cases hs'
      rw [upd_eq_update, Function.update_self]
      exact lt_of_lt_of_le hk (min_le_left _ _)
    · rw [upd_eq_update, Function.update_of_ne hba]; exact hj b s' hs'

/-! ## the memoised `dataSmooth` and the in-place `add` -/

theorem cacheOk_step (sm : Nat → Option (Smoother K)) (nE : Nat) (s : Cached K) (op : Op K)
    (h : CacheOk sm nE s) : CacheOk sm nE (step sm nE s op) := by
  cases op with
  | read =>
    intro c hc
    simp only [step, Option.some.injEq] at hc
    subst hc
    exact observe_of_cacheOk h
  | add B => intro c hc; simp [step] at hc

/-- T7 (any history).  After any sequence of reads of `dataSmooth` and in-place `add`s on a fresh result, `dataSmooth` is
    the smoothed current data, never a stale value. -/
theorem observe_after_history (sm : Nat → Option (Smoother K)) (nE : Nat) (A : Arr K) (ops : List (Op K)) :
    observe sm nE (runOps sm nE ⟨A, none⟩ ops) = dataSmooth sm nE (runOps sm nE ⟨A, none⟩ ops).data :=
  observe_of_cacheOk (foldl_invariant (CacheOk sm nE) (step sm nE) (cacheOk_step sm nE) ops _
    (fun _ hc => nomatch hc))

/-- T7' the history the old code got wrong: read, `add(B)`, read again gives the smoothed sum
    `dataSmooth(A) + dataSmooth(B)`. -/
theorem read_add_read (sm : Nat → Option (Smoother K)) (nE : Nat) (A B : Arr K) :
    observe sm nE (runOps sm nE ⟨A, none⟩ [.read, .add B, .read])
      = fun x => dataSmooth sm nE A x + dataSmooth sm nE B x := by
  rw [observe_after_history]
  have := dataSmooth_linear sm nE A B 1 1
  simp only [one_mul] at this
  exact this

/-- … whereas the original `add` kept the memoised value: the second read returned the smoothed OLD data -/
theorem old_add_keeps_stale_cache (sm : Nat → Option (Smoother K)) (nE : Nat) (A B : Arr K) :
    observe sm nE ([Op.read, Op.add B, Op.read].foldl (stepOld sm nE) ⟨A, none⟩) = dataSmooth sm nE A := rfl

/-! ## several live results: derived results and hidden state -/

/-- every operation keeps every live result consistent: reading memoises the right value, the in-place `add` forgets it,
    a derived result (`*`, `/`, `mul_array`, `+`, `-`, `transform`, loaded copy) starts without a memoised value -/
theorem hstep_ok (h : List (Obj K)) (op : HOp K) (hok : ∀ o ∈ h, ObjOk o) : ∀ o ∈ hstep h op, ObjOk o := by
  cases op with
  | read i =>
    exact forall_mem_updAt h i _ hok fun a ha c hc => by
      simp only [Option.some.injEq] at hc
      subst hc
      exact Obj.observe_of_ok (hok a ha)
  | addIn i B => exact forall_mem_updAt h i _ hok fun _ _ _ hc => nomatch hc
  | new mk =>
    intro o ho
    rcases List.mem_append.1 ho with h1 | h1
    · exact hok o h1
    · rw [List.mem_singleton.1 h1]
      exact fun _ hc => nomatch hc

/-- T8 (any history, any number of live results).  After any interleaving of reads, in-place adds and derivations, every
    live result's `dataSmooth` is the smoothing of its own current data with its own smoothers. -/
theorem heap_after_history (h0 : List (Obj K)) (hfresh : ∀ o ∈ h0, o.cache = none) (ops : List (HOp K)) :
    ∀ o ∈ hrun h0 ops, o.observe = dataSmooth o.sm o.nE o.data :=
  fun o ho => Obj.observe_of_ok (foldl_invariant (fun h => ∀ o ∈ h, ObjOk o) hstep hstep_ok ops h0
    (fun o ho c hc => by rw [hfresh o ho] at hc; cases hc) o ho)

/-- the shortcut 'product inherits parent.dataSmooth × factor' IS sound for a factor that does not vary along any
    smoothed axis — here: a scalar -/
theorem prefill_scalar_ok (o : Obj K) (c : K) (hok : ObjOk o) : ObjOk (mulArrPrefilled o (fun _ => c)) := by
  intro d hd
  unfold mulArrPrefilled at hd ⊢
  cases hs : o.cache with
  | none => rw [hs] at hd; cases hd
  | some c0 =>
    rw [hs] at hd
    simp only [Option.some.injEq] at hd
    subst hd
    simp only [hok c0 hs, mul_comm _ c]
    exact (dataSmooth_homogeneous o.sm o.nE o.data c).symm

/-- … and it is UNSOUND for `mul_array` with an array that varies along a smoothed energy axis (what the calculators do
    with `Efermi`).  Two energies, kernel (1,2,1), data (1,0), factor (1,2): inherited (2/3, 2/3), smoothed product
    (2/3, 1/3). -/
theorem prefill_array_breaks :
    let s : Option (Smoother Rat) := some (mkSmoother 2 1 [1, 2, 1])
    let parent : Obj Rat := ⟨fun _ => s, 1, arrOfList [2] [1, 0], none⟩
    let looked := (hstep [parent] (.read 0)).getD 0 parent
    let child := mulArrPrefilled looked (arrOfList [2] [1, 2])
    listOfArr [2] child.observe = [2/3, 2/3] ∧
    listOfArr [2] (dataSmooth child.sm child.nE child.data) = [2/3, 1/3] ∧
    -- the same product derived through the constructor (repaired / original code) is right
    listOfArr [2] (((hrun [parent] [.read 0, .new (fun h => mulArr (h.getD 0 parent) (arrOfList [2] [1, 2]))]).getD 1
      parent).observe) = [2/3, 1/3] := by
  decide +kernel

/-! ## the defect that was repaired (finding F1) -/

/-- the original loop returns the axis-0 smoother applied to the raw data, whatever the other smoothers are -/
theorem old_dataSmooth_only_axis0 (sm : Nat → Option (Smoother K)) (nE : Nat) (A : Arr K) :
    dataSmoothOld sm (nE + 1) A = applySm (sm 0) 0 A := by
  -- the step ignores its accumulator, so the fold returns the step at the last index, and the reversed range ends in 0
  unfold dataSmoothOld
  rw [List.range_succ_eq_map, List.reverse_cons, List.foldl_append]
  rfl

/-- … which differs from the composition over both axes already for a 2×2 array and the kernel (1,2,1) -/
theorem old_dataSmooth_differs :
    let s : Option (Smoother Rat) := some (mkSmoother 2 1 [1, 2, 1])
    let A := arrOfList [2, 2] [1, 0, 0, 0]
    listOfArr [2, 2] (dataSmoothOld (fun _ => s) 2 A) = [2/3, 0, 1/3, 0] ∧
    listOfArr [2, 2] (dataSmooth (fun _ => s) 2 A) = [4/9, 2/9, 2/9, 1/9] := by
  decide +kernel

/-! ## construction -/

/-- `get_smoother` returns the void smoother exactly when there is nothing to smooth with -/
theorem getSmoother_void_iff (hasE : Bool) (len : Nat) (smear : Option Rat) (mode : Nat) :
    getSmoother hasE len smear mode = .void ↔
      (hasE = false ∨ smear = none ∨ (∃ x, smear = some x ∧ x ≤ 0) ∨ len ≤ 1) := by
  unfold getSmoother
  cases hasE with
  | false => exact iff_of_true rfl (Or.inl rfl)
  | true =>
    cases smear with
    | none => exact iff_of_true rfl (Or.inr (Or.inl rfl))
    | some x =>
      show (if x ≤ 0 then Kind.void else if len ≤ 1 then .void else _) = .void ↔ _
      by_cases hx : x ≤ 0
      · rw [if_pos hx]
        exact iff_of_true rfl (Or.inr (Or.inr (Or.inl ⟨x, rfl, hx⟩)))
      · by_cases hl : len ≤ 1
        · rw [if_neg hx, if_pos hl]
          exact iff_of_true rfl (Or.inr (Or.inr (Or.inr hl)))
        · -- past the guards the mode selects a kernel or the error, never the void smoother
          rw [if_neg hx, if_neg hl]
          refine iff_of_false (by split_ifs <;> exact fun h => nomatch h) ?_
          rintro (h | h | ⟨y, hy, hy'⟩ | h)
          · cases h
          · cases h
          · cases hy; exact hx hy'
          · exact hl h

/-- otherwise the mode selects the kernel, and an unknown mode is an error -/
theorem getSmoother_kind (len : Nat) (x : Rat) (mode : Nat) (hx : 0 < x) (hl : 1 < len) :
    getSmoother true len (some x) mode =
      if mode = 0 then .fermiDirac else if mode = 1 then .gaussian else .error := by
  unfold getSmoother
  simp [not_le.mpr hx, not_le.mpr hl]

end WB.C17
