/-
  C28 — property theorems.

  T2 (`ibp`, its five named pairs and the `fder = 2` form): the identity behind the image rule, in the code's weight
      convention w_n = (-1)^n f^{(n)} — algebraically, for any commutative ring with an additive integral and
      derivations that satisfy Leibniz, periodicity (`∫ ∂_d x = 0`) and the chain rule for the weights.
  T1 (`pair_table_snapshot_ok`, and `pair_table_ok` in the file regenerated from the live calculator classes on every
      run): every documented Fermi-sea entry is the integration-by-parts image of its Fermi-surface partner — same
      formula content, derivative index appended last, same output-axis order (including the `swapaxes(1,2)` of the
      sea calculators), same sign of `constant_factor`, same `- 2 E_F ·` sub-calculator coefficient.
      This is a check on index and sign data: an `Entry` has no denotation, so that `ibpImage` is the right rule is
      read off T2 by hand (Model/C28 header), not proved.
  `_partial`: agreement of the DISCRETISED integrals (finite grid, finite-difference in E_F, Fermi-Dirac smoothing) is
      convergence, not algebra: it is checked by the oracle on the real code only.
-/
import WB.Model.C28
import WB.Lemmas.C28Snapshot
import Mathlib.Algebra.Polynomial.Derivative
import Mathlib.Tactic.Ring

namespace WB.C28

/-! ## T2  integration by parts on the periodic Brillouin zone -/

section IBP
variable {R : Type} [CommRing R] {S : Type} [AddCommGroup S]
  (integ : R →+ S)                       -- ∫_BZ Σ_n
  (D : Fin 3 → R →+ R)                   -- ∂_d
  (hLeib : ∀ d x y, D d (x * y) = D d x * y + x * D d y)
  (hPer : ∀ d x, integ (D d x) = 0)      -- the integral of a derivative of a periodic function vanishes
  (v : Fin 3 → R)                        -- band velocity v_d = ∂_d E
  (w : Nat → R)                          -- w_n = (-1)^n f^{(n)}(E): what `fder = n` integrates against
  (hw : ∀ d n, D d (w n) = -(v d * w (n + 1)))   -- chain rule: ∂_d g(E) = g'(E) v_d
include hLeib hPer hw

/-- T2.  ∫ (∂_d Y) w_n = ∫ Y v_d w_{n+1}: a Fermi-sea entry with the derivative index d equals the Fermi-surface
    entry with an extra velocity v_d and `fder + 1`, with the SAME sign (the minus sign of the partial integration
    cancels against ∂_d w_n = -v_d w_{n+1}; with the textbook weight f' instead of -f' it is the familiar minus sign). -/
theorem ibp (Y : R) (d : Fin 3) (n : Nat) : integ (D d Y * w n) = integ (Y * v d * w (n + 1)) := by
  have h := hPer d (Y * w n)
  rw [hLeib, hw, mul_neg, ← mul_assoc, integ.map_add, integ.map_neg] at h
  exact add_neg_eq_zero.mp h

/-- Ohmic conductivity: `Ohmic_FermiSea` (InvMass[a,b] = ∂_b v_a, fder 0) = `Ohmic_FermiSurf` (VelVel[a,b], fder 1) -/
theorem ohmic_pair (a b : Fin 3) : integ (D b (v a) * w 0) = integ (v a * v b * w 1) :=
  ibp integ D hLeib hPer v w hw (v a) b 0

/-- Berry curvature dipole / NLAHC: sea = DerOmega[δ,β].swapaxes → D_{βδ} = ∫ ∂_β Ω_δ f ;
    surface = VelOmega[β,δ] = ∫ v_β Ω_δ (-f') -/
theorem berry_dipole_pair (Om : Fin 3 → R) (β δ : Fin 3) :
    integ (D β (Om δ) * w 0) = integ (v β * Om δ * w 1) := by
  rw [mul_comm (v β)]
  exact ibp integ D hLeib hPer v w hw (Om δ) β 0

/-- spin gyrotropic tensor: K_{αμ}: sea = DerSpin[μ,α].swapaxes, surface = VelSpin[α,μ] -/
theorem gme_spin_pair (s : Fin 3 → R) (α μ : Fin 3) :
    integ (D α (s μ) * w 0) = integ (v α * s μ * w 1) :=
  berry_dipole_pair integ D hLeib hPer v w hw s α μ

/-- orbital gyrotropic tensor, including the `- 2 E_F ·` Berry-dipole term that both calculators subtract:
    m_μ = H_μ - 2 E_F Ω_μ with E_F a constant -/
theorem gme_orb_pair (H Om : Fin 3 → R) (EF2 : S →+ S) (α μ : Fin 3) :
    integ (D α (H μ) * w 0) - EF2 (integ (D α (Om μ) * w 0))
      = integ (v α * H μ * w 1) - EF2 (integ (v α * Om μ * w 1)) := by
  rw [mul_comm (v α), mul_comm (v α)]
  exact congrArg₂ (fun x y => x - EF2 y) (ibp integ D hLeib hPer v w hw (H μ) α 0)
    (ibp integ D hLeib hPer v w hw (Om μ) α 0)

/-- nonlinear Drude: sea = Der3E[a,b,c] = ∂_c ∂_b v_a (fder 0), surface = MassVel[a,b,c] = (∂_b v_a) v_c (fder 1) -/
theorem nldrude_pair (a b c : Fin 3) :
    integ (D c (D b (v a)) * w 0) = integ (D b (v a) * v c * w 1) :=
  ibp integ D hLeib hPer v w hw (D b (v a)) c 0

/-- the `fder = 2` form `NLDrude_Fermider2` (VelVelVel, constant_factor/2):
    ∫ v_a v_b v_c w_2 = T_abc + T_cba with T_abc = ∫ (∂_b v_a) v_c w_1 the surface form -/
theorem nldrude_fermider2 (a b c : Fin 3) :
    integ (v a * v b * v c * w 2) = integ (D b (v a) * v c * w 1) + integ (D b (v c) * v a * w 1) := by
  have h := ibp integ D hLeib hPer v w hw (v a * v c) b 1
  rw [hLeib, add_mul, integ.map_add, mul_comm (v a) (D b (v c))] at h
  rw [mul_right_comm (v a)]
  exact h.symm

end IBP

/-! ### non-vacuity of the hypotheses of T2 -/

/-- non-vacuity of the hypotheses of `ibp`: polynomials in z = e^{ik}, D = z d/dz (the derivative with respect to k up
    to the factor i), ∫ = constant Fourier coefficient, w_n = (-2)^n z, v = 1/2 -/
example : ∃ (integ : Polynomial ℚ →+ ℚ) (D : Fin 3 → Polynomial ℚ →+ Polynomial ℚ) (v : Fin 3 → Polynomial ℚ)
    (w : Nat → Polynomial ℚ),
    (∀ d x y, D d (x * y) = D d x * y + x * D d y) ∧ (∀ d x, integ (D d x) = 0) ∧
    (∀ d n, D d (w n) = -(v d * w (n + 1))) ∧ D 0 Polynomial.X ≠ 0 := by
  refine ⟨(Polynomial.lcoeff ℚ 0).toAddMonoidHom,
    fun _ => (AddMonoidHom.mulLeft Polynomial.X).comp Polynomial.derivative.toAddMonoidHom,
    fun _ => Polynomial.C (1 / 2), fun n => Polynomial.C ((-2 : ℚ) ^ n) * Polynomial.X, ?_, ?_, ?_, ?_⟩
  · intro d x y
    simp only [AddMonoidHom.comp_apply, AddMonoidHom.coe_mulLeft, LinearMap.toAddMonoidHom_coe,
      Polynomial.derivative_mul, mul_add, mul_assoc, mul_left_comm Polynomial.X x]
  · intro d x
    exact Polynomial.coeff_X_mul_zero _
  · intro d n
    simp only [AddMonoidHom.comp_apply, AddMonoidHom.coe_mulLeft, LinearMap.toAddMonoidHom_coe]
    rw [Polynomial.derivative_C_mul, Polynomial.derivative_X, mul_one, Polynomial.X_mul_C, ← mul_assoc,
      ← Polynomial.C_mul, show (1 / 2 : ℚ) * (-2) ^ (n + 1) = -(-2) ^ n by rw [pow_succ]; ring, Polynomial.C_neg,
      neg_mul, neg_neg]
  · simp only [AddMonoidHom.comp_apply, AddMonoidHom.coe_mulLeft, LinearMap.toAddMonoidHom_coe,
      Polynomial.derivative_X, mul_one]
    exact Polynomial.X_ne_zero

/-! ## T1  the documented pairs are integration-by-parts images -/

/-- snapshot of the live calculator table (Formula, fder, sign, axis permutation, sub-calculator) for the documented
    pairs Ohmic, BerryDipole, NLAHC, GME spin, GME orbital, nonlinear Drude; regenerated and re-checked on every run -/
theorem pair_table_snapshot_ok : pairTableOK snapshotPairs = true := by decide +kernel

/-- the check has teeth: without the `swapaxes(1,2)` of `BerryDipole_FermiSea` the pair is rejected -/
theorem missing_swap_rejected :
    pairOK ⟨.DerOmega, 0, false, [0, 1]⟩ ⟨.VelOmega, 1, false, [0, 1]⟩ = false := by decide +kernel

/-- a sign flip of one `constant_factor` is rejected -/
theorem sign_flip_rejected :
    pairOK ⟨.InvMass, 0, false, [0, 1]⟩ ⟨.VelVel, 1, true, [0, 1]⟩ = false := by decide +kernel

/-- forgetting the `swapaxes(1,2)` of the spin GME sea calculator is rejected, and so is a wrong `fder` -/
theorem spin_axes_and_fder :
    pairOK ⟨.DerSpin, 0, false, [0, 1]⟩ ⟨.VelSpin, 1, false, [0, 1]⟩ = false ∧
    pairOK ⟨.DerSpin, 0, false, [1, 0]⟩ ⟨.VelSpin, 2, false, [0, 1]⟩ = false ∧
    pairOK ⟨.DerSpin, 0, false, [1, 0]⟩ ⟨.VelSpin, 1, false, [0, 1]⟩ = true := by decide +kernel

/-- the image rule itself, on the Berry dipole: DerOmega[c,d] with output axes (d,c) ↦ Ω_c v_d, fder 1 -/
example : (ibpImage (Calc.entry ⟨.DerOmega, 0, false, [1, 0]⟩)).map canon
    = some (canon (Calc.entry ⟨.VelOmega, 1, false, [0, 1]⟩)) := by decide +kernel

end WB.C28
