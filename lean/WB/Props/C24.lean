/-
  C24 — wannierise returns a valid gauge honouring the windows: property theorems.

  Objects (all from `WB/Model/C24.lean`, the functions the correspondence run executes):
    frozenMask / outerMask / freeMask / assertOK / kSelected / idx   the mask logic of `wannierise`
    embed fz fr Uf                                                   `U[frozen, :nfrozen] = 1; U[free, nfrozen:] = U_opt_free`
    finalU sel nw E W                                                `U[:] = 0; U[selected] = U_loc · ZV`
  External kernels enter only through named hypotheses:
    `hUf : U_free† U_free = 1`   (contract of `numpy.linalg.eigh` used by `get_max_eig`)
    `hW  : W† W = 1`             (contract of `numpy.linalg.svd` used by `orthogonalize` on a square matrix)
    `hQ  : Q† Q = 1`, `Q · H = A`, `H · H' = 1`   (contract of `orthogonalize` on a full-column-rank NB × nW matrix)
  T5 uses `Valid`, `Contracts`, `Inv3`, `HermFn`, `MixOK` of `Lemmas/C24Iter.lean`.
  Scalars: any commutative star-ring for T2–T4, any field with a star operation for T5.
-/
import WB.Lemmas.C24Iter
import WB.Props.C15

namespace WB.C24
open WB.C15 Matrix

/-! ## T1 — masks -/

/-- T1a.  Frozen window inside the outer window, explicit `frozen_states` selected: every frozen band is selected (the
    code's `assert` cannot fire), also when a window edge cuts a multiplet. -/
theorem frozen_subset_selected (E : Nat → Rat) (th fmin fmax omin omax : Rat) (n : Nat) (extra : List Nat)
    (hmin : omin ≤ fmin) (hmax : fmax ≤ omax)
    (hextra : ∀ x ∈ extra, outerMask E th omin omax n x = true)
    (j : Nat) (hf : frozenMask E th fmin fmax n extra j = true) :
    outerMask E th omin omax n j = true := by
  unfold frozenMask at hf
  simp only [Bool.and_eq_true, Bool.or_eq_true, decide_eq_true_eq, List.contains_iff_mem] at hf
  obtain ⟨hj, h | h⟩ := hf
  · unfold outerMask
    simp only [Bool.and_eq_true, decide_eq_true_eq]
    refine ⟨hj, selectWindow_include_superset E th omin omax n j hj ?_⟩
    exact inWindow_mono E fmin fmax omin omax j hmin hmax (selectWindow_exclude_subset E th fmin fmax n j h)
  · exact hextra j h

/-- T1a'.  The code's guard `assert np.all(selected_bands[frozen])` is exactly `frozen ⊆ selected`. -/
theorem assert_guard (n : Nat) (sel frozen : Nat → Bool) :
    assertOK n sel frozen = true ↔ ∀ j, j < n → frozen j = true → sel j = true := by
  unfold assertOK
  simp only [List.all_eq_true, List.mem_range, Bool.or_eq_true, Bool.not_eq_true']
  refine forall₂_congr fun j _ => ?_
  cases frozen j <;> simp

/-- T1b.  `free ∩ frozen = ∅`, `free ⊆ selected`, and `free` is exactly "selected and not frozen". -/
theorem free_spec (n : Nat) (sel frozen : Nat → Bool) (j : Nat) :
    freeMask n sel frozen j = true ↔ j < n ∧ frozen j = false ∧ sel j = true := by
  unfold freeMask deselected free0
  cases frozen j <;> cases sel j <;> simp

theorem free_disjoint_frozen (n : Nat) (sel frozen : Nat → Bool) (j : Nat)
    (h : freeMask n sel frozen j = true) : frozen j = false :=
  ((free_spec n sel frozen j).1 h).2.1

/-- T1c.  Once the guard has passed, the band set each k-point object works on (`frozen | free`) is the outer-window
    selection. -/
theorem kSelected_eq_selected (n : Nat) (sel frozen : Nat → Bool)
    (hsel : ∀ j, sel j = true → j < n) (hok : assertOK n sel frozen = true)
    (hfz : ∀ j, frozen j = true → j < n) (j : Nat) :
    kSelected frozen (freeMask n sel frozen) j = sel j := by
  unfold kSelected
  rw [Bool.eq_iff_iff, Bool.or_eq_true, free_spec]
  constructor
  · rintro (hf | ⟨_, _, hs⟩)
    · exact (assert_guard n sel frozen).1 hok j (hfz j hf) hf
    · exact hs
  · intro hs
    cases hf : frozen j
    · exact Or.inr ⟨hsel j hs, rfl, hs⟩
    · exact Or.inl rfl

/-- the masks produced for a concrete spectrum: a doublet cut by the upper frozen edge is left out of the frozen
    set (include_degen=False), a doublet cut by the upper outer edge is kept whole (include_degen=True) -/
example :
    let E := ofList [0, 1, 1, 2, 3, 3, 4]
    (List.range 7).map (frozenMask E (1/100) 0 1 7 []) = [true, true, true, false, false, false, false] ∧
    (List.range 7).map (frozenMask E (1/100) 0 (1/2) 7 []) = [true, false, false, false, false, false, false] ∧
    (List.range 7).map (outerMask E (1/100) 0 3 7) = [true, true, true, true, true, true, false] ∧
    assertOK 7 (outerMask E (1/100) 0 3 7) (frozenMask E (1/100) 0 1 7 []) = true := by
  decide +kernel

/-! ## T1d — explicit `frozen_states` and irreducible k-points -/

/-- the list form applies at every irreducible k-point, whatever its global index -/
theorem explicit_list_applies_everywhere (l : List Nat) (kptirr : List Nat) (iki : Nat) :
    explicitFrozen (.all l) kptirr iki = l := rfl

/-- the dictionary form is keyed by the GLOBAL k-point index -/
theorem explicit_dict_by_global_index (d : List (Nat × List Nat)) (kptirr : List Nat) (iki : Nat) (hk : iki < kptirr.length)
    (b : Nat) :
    b ∈ explicitFrozen (.perK d) kptirr iki ↔ ∃ e ∈ d, e.1 = kptirr[iki] ∧ b ∈ e.2 := by
  unfold explicitFrozen
  simp only [List.getElem?_eq_getElem hk, List.mem_flatMap, List.mem_filter, beq_iff_eq, and_assoc]

/-- rewriting the list form as a dictionary over the positions `0 … NKirr−1` is NOT the same once the irreducible k-points
    are not the first ones (`kptirr = [0, 1, 3]`, diamond 2×2×2): global index 3 loses its explicitly frozen bands -/
theorem list_form_is_not_dict_over_positions :
    explicitFrozen (.all [0, 1, 2, 3]) [0, 1, 3] 2 = [0, 1, 2, 3] ∧
    explicitFrozen (.perK [(0, [0, 1, 2, 3]), (1, [0, 1, 2, 3]), (2, [0, 1, 2, 3])]) [0, 1, 3] 2 = [] := by
  decide

/-! ## T2–T4 — the returned matrix -/

section
variable {K : Type} [CommRing K]

theorem frozen_unit_is_column (fz fr : List Nat) (Uf : Nat → Nat → K) (nb nw : Nat)
    (hfzlt : ∀ b ∈ fz, b < nb) (j : Nat) (hj : j < fz.length) (hjw : j < nw) :
    (Pi.single (⟨fz[j], hfzlt _ (List.getElem_mem hj)⟩ : Fin nb) (1 : K))
      = Emat fz fr Uf nb nw *ᵥ Pi.single (⟨j, hjw⟩ : Fin nw) 1 :=
  Core.frozen_unit_is_column fz fr Uf nb nw hfzlt j hj hjw

/-- T4.  Rows of bands outside the outer-window selection are zero in `E·W`. -/
theorem outer_zero (fz fr : List Nat) (Uf : Nat → Nat → K) (nb nw : Nat)
    (W : Matrix (Fin nw) (Fin nw) K) (b : Fin nb) (h1 : b.val ∉ fz) (h2 : b.val ∉ fr) (w : Fin nw) :
    (Emat fz fr Uf nb nw * W) b w = 0 :=
  Core.outer_zero fz fr Uf nb nw W b h1 h2 w

/-- the matrix the model returns (`rotate_to_projections`: `U[:] = 0; U[selected] = U_loc·ZV`) is `E·W`
    when `selected = frozen ∪ free` -/
theorem finalU_eq_mul (fz fr : List Nat) (Uf : Nat → Nat → K) (nb nw : Nat) (sel : Nat → Bool)
    (hsel : ∀ b, sel b = true ↔ (b ∈ fz ∨ b ∈ fr))
    (W : Matrix (Fin nw) (Fin nw) K) (b : Fin nb) (w : Fin nw) :
    finalU sel nw (embed fz fr Uf) (fun i j => if h : i < nw ∧ j < nw then W ⟨i, h.1⟩ ⟨j, h.2⟩ else 0) b.val w.val
      = (Emat fz fr Uf nb nw * W) b w :=
  Core.finalU_eq_mul fz fr Uf nb nw sel hsel W b w

theorem finalU_zero_outside (sel : Nat → Bool) (nw : Nat) (Emb W : Nat → Nat → K) (b w : Nat)
    (h : sel b = false) : finalU sel nw Emb W b w = 0 :=
  Core.finalU_zero_outside sel nw Emb W b w h

end

section
variable {K : Type} [CommRing K] [StarRing K]

/-- T2a.  The embedding `E = [e_frozen | U_free]` built by the code's two masked assignments has orthonormal columns
    when `U_free` has (eigh contract). -/
theorem embedding_isometry (fz fr : List Nat) (Uf : Nat → Nat → K) (nb ng : Nat)
    (hfz : fz.Nodup) (hfr : fr.Nodup) (hdisj : ∀ b ∈ fz, b ∉ fr)
    (hfzlt : ∀ b ∈ fz, b < nb) (hfrlt : ∀ b ∈ fr, b < nb)
    (hUf : (Ufmat Uf fr.length ng)ᴴ * Ufmat Uf fr.length ng = 1) :
    (Emat fz fr Uf nb (fz.length + ng))ᴴ * Emat fz fr Uf nb (fz.length + ng) = 1 :=
  Core.embedding_isometry fz fr Uf nb ng hfz hfr hdisj hfzlt hfrlt hUf

/-- T2.  `U = E·W` with `E†E = 1` and `W†W = 1` (SVD contract) has orthonormal columns. -/
theorem isometry {m n : Type} [Fintype m] [Fintype n] [DecidableEq n]
    (E : Matrix m n K) (W : Matrix n n K) (hE : Eᴴ * E = 1) (hW : Wᴴ * W = 1) :
    (E * W)ᴴ * (E * W) = 1 :=
  Core.isometry E W hE hW

/-- T3 (generic form).  With `W` unitary, `U U†` acts as the identity on every vector of the column space of `E`. -/
theorem projector_fixes_range {m n : Type} [Fintype m] [Fintype n] [DecidableEq n]
    (E : Matrix m n K) (W : Matrix n n K) (hE : Eᴴ * E = 1) (hW : Wᴴ * W = 1) (c : n → K) :
    ((E * W) * (E * W)ᴴ) *ᵥ (E *ᵥ c) = E *ᵥ c :=
  Core.projector_fixes_range E W hE hW c

/-- T3.  Every frozen state lies in the span of the returned matrix `U = E·W`: `U U† e_f = e_f`. -/
theorem frozen_in_span (fz fr : List Nat) (Uf : Nat → Nat → K) (nb ng : Nat)
    (hfz : fz.Nodup) (hfr : fr.Nodup) (hdisj : ∀ b ∈ fz, b ∉ fr)
    (hfzlt : ∀ b ∈ fz, b < nb) (hfrlt : ∀ b ∈ fr, b < nb)
    (hUf : (Ufmat Uf fr.length ng)ᴴ * Ufmat Uf fr.length ng = 1)
    (W : Matrix (Fin (fz.length + ng)) (Fin (fz.length + ng)) K) (hW : Wᴴ * W = 1)
    (j : Nat) (hj : j < fz.length) :
    let U := Emat fz fr Uf nb (fz.length + ng) * W
    (U * Uᴴ) *ᵥ (Pi.single (⟨fz[j], hfzlt _ (List.getElem_mem hj)⟩ : Fin nb) (1 : K))
      = Pi.single (⟨fz[j], hfzlt _ (List.getElem_mem hj)⟩ : Fin nb) 1 :=
  Core.frozen_in_span fz fr Uf nb ng hfz hfr hdisj hfzlt hfrlt hUf W hW j hj

/-- T2–T4 for the `localise=True` update and any further `orthogonalize`: the polar isometry `Q` of `A = E·W` (SVD
    contract for full column rank: `Q·H = A`, `H` invertible) keeps the frozen states in its span and the zero rows. -/
theorem orthogonalised_keeps_constraints (fz fr : List Nat) (Uf : Nat → Nat → K) (nb nw : Nat)
    (hfzlt : ∀ b ∈ fz, b < nb)
    (W W' H H' : Matrix (Fin nw) (Fin nw) K) (Q : Matrix (Fin nb) (Fin nw) K)
    (hQ : Qᴴ * Q = 1) (hpolar : Q * H = Emat fz fr Uf nb nw * W) (hH : H * H' = 1) (hW : W * W' = 1) :
    (∀ j (hj : j < fz.length) (_ : j < nw),
        (Q * Qᴴ) *ᵥ (Pi.single (⟨fz[j], hfzlt _ (List.getElem_mem hj)⟩ : Fin nb) (1 : K))
          = Pi.single (⟨fz[j], hfzlt _ (List.getElem_mem hj)⟩ : Fin nb) 1) ∧
    (∀ (b : Fin nb), b.val ∉ fz → b.val ∉ fr → ∀ w, Q b w = 0) :=
  Core.orthogonalised_keeps_constraints fz fr Uf nb nw hfzlt W W' H H' Q hQ hpolar hH hW

/-- C24, assembled for one k-point: masks for which the code's guard passes, the index lists read off them, `U_free` an
    isometry (eigh contract), `W` unitary (SVD contract) ⇒ `U = E·W` satisfies T2, T3 and T4. -/
theorem wannierise_gauge_valid (E : Nat → Rat) (th fmin fmax omin omax : Rat) (n : Nat) (extra : List Nat)
    (ng : Nat) (Uf : Nat → Nat → K)
    (hok : assertOK n (outerMask E th omin omax n) (frozenMask E th fmin fmax n extra) = true) :
    let frozen := frozenMask E th fmin fmax n extra
    let sel := outerMask E th omin omax n
    let fz := idx n frozen
    let fr := idx n (freeMask n sel frozen)
    ∀ (_ : (Ufmat Uf fr.length ng)ᴴ * Ufmat Uf fr.length ng = 1)
      (W : Matrix (Fin (fz.length + ng)) (Fin (fz.length + ng)) K) (_ : Wᴴ * W = 1),
      let U := Emat fz fr Uf n (fz.length + ng) * W
      Uᴴ * U = 1 ∧
      (∀ f : Fin n, frozen f.val = true → (U * Uᴴ) *ᵥ Pi.single f (1 : K) = Pi.single f 1) ∧
      (∀ b : Fin n, sel b.val = false → ∀ w, U b w = 0) := by
  intro frozen sel fz fr hUf W hW U
  have hfzlt : ∀ b ∈ fz, b < n := fun b hb => ((mem_idx n frozen b).1 hb).1
  have hfrlt : ∀ b ∈ fr, b < n := fun b hb => ((mem_idx n _ b).1 hb).1
  have hdisj : ∀ b ∈ fz, b ∉ fr := fun b hb hb' =>
    Bool.false_ne_true ((free_disjoint_frozen n sel frozen b ((mem_idx n _ b).1 hb').2).symm.trans
      ((mem_idx n frozen b).1 hb).2)
  have hE := embedding_isometry fz fr Uf n ng (idx_nodup n frozen) (idx_nodup n _) hdisj hfzlt hfrlt hUf
  refine ⟨isometry _ W hE hW, fun f hf => ?_, fun b hb w => outer_zero fz fr Uf n _ W b (fun hmem => ?_) (fun hmem => ?_) w⟩
  · obtain ⟨j, hj, hjf⟩ := List.getElem_of_mem ((mem_idx n frozen f.val).2 ⟨f.isLt, hf⟩)
    obtain rfl : ⟨fz[j], hfzlt _ (List.getElem_mem hj)⟩ = f := Fin.ext hjf
    exact frozen_in_span fz fr Uf n ng (idx_nodup n frozen) (idx_nodup n _) hdisj hfzlt hfrlt hUf W hW j hj
  · exact Bool.false_ne_true (hb.symm.trans
      ((assert_guard n sel frozen).1 hok b.val b.isLt ((mem_idx n frozen b.val).1 hmem).2))
  · exact Bool.false_ne_true (hb.symm.trans
      ((free_spec n sel frozen b.val).1 ((mem_idx n _ b.val).1 hmem).2).2.2)

end

/-! ## T5 — the update loop: the invariants after every iteration

  Model: `updateK` (`Kpoint_and_neighbours.update`), `initK` (`__init__`), `stepAll` / `runIter` (the loop of `wannierise`
  with `U_neigh` taken from the previous sweep).  Kernels are parameters; their contracts are `Contracts`. -/

section
variable {K : Type} [Field K] [StarRing K]

/-- T5a.  One call of `update`, either branch, returns a matrix with the three invariants and a Hermitian `Z`.  Contracts
    used: `eig_orthonormal` (on `Z`, proved Hermitian here), `polarSq_unitary` (both branches), `polarTall_fullrank`
    (localisation branch only, applied to `E·W`, which has the left inverse `W†E†`). -/
theorem update_keeps_invariants (ker : Kernels K) (hker : Contracts ker) (d : KData K) (hd : Valid d) (localise : Bool)
    (mixing : Option (K × K × (Nat → Nat → K))) (hmix : MixOK d.fr.length mixing)
    (Unb : Nat → Nat → Nat → K) (phase : Nat → Nat → K) :
    Inv3 d (updateK ker star d localise mixing Unb phase).1 ∧
      HermFn d.fr.length (updateK ker star d localise mixing Unb phase).2 := by
  have hZ := zMatrix_herm d hd.wb_real mixing hmix Unb
  cases localise with
  | false => exact ⟨rotateToProj_inv3 ker hker d hd _ hZ, hZ⟩
  | true => exact ⟨polarTall_inv3 ker hker d hd _ _ hZ (hker.polarSq_unitary d.nw _), hZ⟩

/-- T5b.  The initial gauge (`__init__`: eigenvectors of `A_free A_free†`, then `rotate_to_projections`) has the
    invariants for ANY projection matrix, rank-deficient ones included — because the only matrix that is orthogonalised
    is the square `U_loc† A`. -/
theorem init_has_invariants (ker : Kernels K) (hker : Contracts ker) (d : KData K) (hd : Valid d) :
    Inv3 d (initK ker star d) :=
  rotateToProj_inv3 ker hker d hd _ (amn2_herm d)

/-- T5.  For every number of sweeps, neighbour table, `Valid` data, phase array computed from the previous state,
    `localise` on or off, with or without Z-mixing (real `mix_ratio`): the matrix held has the three invariants. -/
theorem wannierise_invariant_all_iterations (ker : Kernels K) (hker : Contracts ker)
    (d : Nat → KData K) (hd : ∀ k, Valid (d k)) (nbr : Nat → Nat → Nat) (localise : Bool) (mix : Option (K × K))
    (hmix : ∀ m om, mix = some (m, om) → star m = m ∧ star om = om)
    (phaseOf : (Nat → KState K) → Nat → Nat → Nat → K) (n k : Nat) :
    Inv3 (d k) ((runIter ker star d nbr localise mix phaseOf n) k).U := by
  -- carried from sweep to sweep: the invariants, and a Hermitian `Zold`
  have h : ∀ n k, Inv3 (d k) ((runIter ker star d nbr localise mix phaseOf n) k).U ∧
      ∀ Z, ((runIter ker star d nbr localise mix phaseOf n) k).Zold = some Z → HermFn (d k).fr.length Z := by
    intro n
    induction n with
    | zero => exact fun k => ⟨init_has_invariants ker hker (d k) (hd k), fun _ hZ => nomatch hZ⟩
    | succ n ih =>
      rw [runIter]
      generalize runIter ker star d nbr localise mix phaseOf n = S at ih ⊢
      intro k
      refine (fun hu => ⟨hu.1, fun Z hZ => Option.some.inj hZ ▸ hu.2⟩)
        (update_keeps_invariants ker hker (d k) (hd k) localise _ ?_ (fun ib => (S (nbr k ib)).U) (phaseOf S k))
      -- the mixing data handed to `update` is admissible
      cases hm : mix with
      | none => simp [MixOK]
      | some t =>
        obtain ⟨m, om⟩ := t
        cases hz : (S k).Zold with
        | none => simp [MixOK]
        | some Zold => exact ⟨(hmix m om hm).1, (hmix m om hm).2, (ih k).2 Zold hz⟩
  exact (h n k).1

/-- T5c (the square-factor contract is necessary).  With `E†E = 1`, `U = E·W` has orthonormal columns IF AND ONLY IF
    `W†W = 1`: an `orthogonalize` that is not unitary on some (e.g. rank-deficient) square argument — such as the
    Löwdin formula `u (u†u)^(-1/2)` with clipped eigenvalues — breaks the isometry exactly there. -/
theorem isometry_iff_square_factor_unitary {m n : Type} [Fintype m] [Fintype n] [DecidableEq n]
    (E : Matrix m n K) (W : Matrix n n K) (hE : Eᴴ * E = 1) :
    (E * W)ᴴ * (E * W) = 1 ↔ Wᴴ * W = 1 := by
  rw [conjTranspose_mul, Matrix.mul_assoc, ← Matrix.mul_assoc Eᴴ, hE, Matrix.one_mul]

end

/-- T5d (why the tall polar contract needs full rank, and why the code orthogonalises the SQUARE matrix `U_loc† A`).  Two
    bands, one Wannier function, band 0 frozen, `U_loc† A = 0`: the tall product is zero; `Q = e_1`, `H = 0` is a legitimate
    SVD polar pair for it, and the frozen state is then outside the span of `Q`; the square route gives `U = e_0`. -/
theorem rank_deficient_tall_polar_can_lose_frozen_state :
    ∃ (Q : Matrix (Fin 2) (Fin 1) ℚ) (H : Matrix (Fin 1) (Fin 1) ℚ),
      Qᴴ * Q = 1 ∧ Q * H = Emat [0] [] (fun _ _ => (0 : ℚ)) 2 1 * (0 : Matrix (Fin 1) (Fin 1) ℚ) ∧
      (Q * Qᴴ) *ᵥ Pi.single (0 : Fin 2) (1 : ℚ) ≠ Pi.single 0 1 :=
  ⟨Matrix.of ![![0], ![1]], 0, by decide +kernel, by decide +kernel, by decide +kernel⟩

/-- non-vacuity of `Valid` -/
example : Valid ({ nb := 2, nw := 1, nnb := 1, fz := [0], fr := [1], fzNb := fun _ => [0], frNb := fun _ => [1],
                   M := fun _ _ _ => (1 : ℚ), wb := fun _ => 1, amn := fun _ _ => 1 } : KData ℚ) :=
  { fz_nodup := by decide, fr_nodup := by decide, disj := by decide, fz_lt := by decide, fr_lt := by decide,
    nfz_le := by decide, nw_le := by decide, wb_real := fun _ => star_one ℚ }

/-- non-vacuity of the hypotheses of T2–T4: frozen bands {1,2}, free bands {0,3}, `U_free = (3/5, 4/5)ᵀ` over ℚ -/
example :
    let E : Nat → Nat → Rat := embed [1, 2] [0, 3] (ofMat [[3/5], [4/5]])
    (List.range 3).map (fun w => (List.range 3).map (fun w' =>
        sumTo 5 (fun b => E b w * E b w'))) = [[1, 0, 0], [0, 1, 0], [0, 0, 1]] ∧
    (List.range 5).map (fun b => (List.range 3).map (E b))
      = [[0, 0, 3/5], [1, 0, 0], [0, 1, 0], [0, 0, 4/5], [0, 0, 0]] := by
  decide +kernel

end WB.C24
