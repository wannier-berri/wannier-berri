/-
  C33 — property theorems: the matrix diagonalised at a tetrahedron / parallelepiped corner is the Hamiltonian at the
  corner k-point.

  Vocabulary: `A` = additive group in which k-vector components live (ℚ, ℝ, …), `ex : A → K` an abstract exponential
  (`IsExp`: `ex (x+y) = ex x · ex y`, `ex 0 = 1`; `x ↦ e^{2πi x}` is an instance), `kdot k R = k·R`,
  `cornerVec h ix iy iz = (±h₁, ±h₂, ±h₃)` with `h = dK/2` = the corner vector `((ix,iy,iz) − ½)∘dK`,
  `cornerPhase` = `expdK[ix,:,0]*expdK[iy,:,1]*expdK[iz,:,2]`, `cornerPath` = `R_to_k(Ham_R * phase array)` at FFT point `m`,
  `explicitSum χ entries = Σ_R χ(R) H(R)`.
-/
import WB.Lemmas.C33
import WB.Props.C02

namespace WB.C33
open WB.C01 WB.C02

/-! ## T1 — corner phases -/

/-- T1a.  For every half step `h = dK/2`, every corner `(ix,iy,iz)`, every R and every exponential:
    `expdK[ix,R,0]·expdK[iy,R,1]·expdK[iz,R,2] = χ_v(R)` with `v = ((ix,iy,iz) − ½)∘dK`. -/
theorem corner_phase {K : Type} [Field K] {A : Type} [AddCommGroup A] {ex : A → K} (hex : IsExp ex)
    (h : A × A × A) (ix iy iz : Bool) (R : Vec3) :
    cornerPhase (fun r => ex (r • h.1)) (fun r => ex (r • h.2.1)) (fun r => ex (r • h.2.2)) ix iy iz R
      = ex (kdot (cornerVec h ix iy iz) R) := by
  unfold cornerPhase
  rw [cornerFactor_eq hex, cornerFactor_eq hex, cornerFactor_eq hex, ← hex.add, ← hex.add]
  rfl

/-- T2a (stated here because T1b rewrites with it; T2b, T2c follow below).  A phase array built from a block's OWN R list multiplies every entry `(R, H(R))` by the phase of its own `R`
    — whatever the order and length of the list (this is what the repaired `Data_K_soc` does for the spin-up block,
    the spin-down block and the SOC term separately). -/
theorem own_list_phase {K : Type} [Field K] (φ : Vec3 → K) (entries : List (Vec3 × K)) :
    mulArr entries (phaseArr φ (entries.map (·.1))) = entries.map fun e => (e.1, e.2 * φ e.1) := by
  unfold mulArr phaseArr
  induction entries with
  | nil => rfl
  | cons e es ih => simp only [List.map_cons, List.zipWith_cons_cons, ih]

/-- T1b (corner Hamiltonian, general phase).  Let the FFT-box characters be `χ_m(R) = ex (k_m·R)` (box periodic), let
    `Ham_R` carry `ex (K·R)` already (`χd`), and let the corner phase array be built from the block's own R list with
    `φ(R) = ex (v·R)`.  Then, for EVERY FFT box size (collisions included), under the inverse-DFT contract, the matrix
    element that is diagonalised is `Σ_R ex((k_m + K + v)·R) H(R)` — the Hamiltonian at the corner k-point.
    (Tetrahedron vertices: `φ = exp(2πi R·vertex)` is of this form by definition.) -/
theorem corner_hamiltonian {K : Type} [Field K] {A : Type} [AddCommGroup A] {ex : A → K} (hex : IsExp ex)
    (N : Mesh) (h1 : 0 < N.1) (h2 : 0 < N.2.1) (h3 : 0 < N.2.2)
    (χ : Vec3 → Vec3 → K) (hper : ∀ m R, χ m R = χ m (vmod R N))
    (Finv : (Vec3 → K) → Vec3 → K) (hF : IDFTContract N χ Finv)
    (m : Vec3) (hm : m ∈ gridPoints N) (km kK v : A × A × A)
    (hχ : ∀ R, χ m R = ex (kdot km R))
    (χd φ : Vec3 → K) (hχd : ∀ R, χd R = ex (kdot kK R)) (hφ : ∀ R, φ R = ex (kdot v R))
    (entries : List (Vec3 × K)) :
    cornerPath Finv N χd φ entries m
      = explicitSum (fun R => ex (kdot (kadd (kadd km kK) v) R)) entries := by
  -- the corner path is the fft path of C02 with the two phases multiplied
  have e : cornerPath Finv N χd φ entries m = fftPath Finv N (fun R => χd R * φ R) entries m := by
    unfold cornerPath fftPath fftCore
    rw [← applyExpdK_fst χd entries, own_list_phase]
    exact congrArg (fun l => Finv (placeOnBox N l) m) (applyExpdK_twice χd φ entries)
  rw [e, fft_path_eq_explicit N h1 h2 h3 χ hper Finv hF _ entries m hm]
  unfold explicitSum
  apply sumK_map_congr
  intro e _
  beta_reduce
  rw [hχ, hχd, hφ, kdot_add, kdot_add, hex.add, hex.add]
  ring

/-- T1c (parallelepiped corners).  With the code's phase product the diagonalised matrix is the Hamiltonian at
    `k_m + K + ((ix,iy,iz) − ½)∘dK`. -/
theorem parallelepiped_corner_hamiltonian {K : Type} [Field K] {A : Type} [AddCommGroup A] {ex : A → K} (hex : IsExp ex)
    (N : Mesh) (h1 : 0 < N.1) (h2 : 0 < N.2.1) (h3 : 0 < N.2.2)
    (χ : Vec3 → Vec3 → K) (hper : ∀ m R, χ m R = χ m (vmod R N))
    (Finv : (Vec3 → K) → Vec3 → K) (hF : IDFTContract N χ Finv)
    (m : Vec3) (hm : m ∈ gridPoints N) (km kK h : A × A × A)
    (hχ : ∀ R, χ m R = ex (kdot km R))
    (χd : Vec3 → K) (hχd : ∀ R, χd R = ex (kdot kK R)) (ix iy iz : Bool)
    (entries : List (Vec3 × K)) :
    cornerPath Finv N χd
        (cornerPhase (fun r => ex (r • h.1)) (fun r => ex (r • h.2.1)) (fun r => ex (r • h.2.2)) ix iy iz) entries m
      = explicitSum (fun R => ex (kdot (kadd (kadd km kK) (cornerVec h ix iy iz)) R)) entries :=
  corner_hamiltonian hex N h1 h2 h3 χ hper Finv hF m hm km kK _ hχ χd _ hχd (corner_phase hex h ix iy iz) entries

/-! ## T2 — spin blocks, each with its own R list -/

/-- T2b.  The interlaced assembly puts the spin-up block on even/even, the spin-down block on odd/odd indices and adds the
    SOC term everywhere — exactly where direct evaluation of the spinor Hamiltonian has them. -/
theorem soc_assembly {K : Type} [Field K] (up down soc : Nat → Nat → K) :
    (∀ a b, socElem up down soc (2 * a) (2 * b) = up a b + soc (2 * a) (2 * b)) ∧
    (∀ a b, socElem up down soc (2 * a + 1) (2 * b + 1) = down a b + soc (2 * a + 1) (2 * b + 1)) ∧
    (∀ i j, i % 2 ≠ j % 2 → socElem up down soc i j = soc i j) := by
  unfold socElem
  refine ⟨fun a b => ?_, fun a b => ?_, fun i j h => ?_⟩
  · rw [if_pos ⟨Nat.mul_mod_right 2 a, Nat.mul_mod_right 2 b⟩, Nat.mul_div_cancel_left a two_pos,
      Nat.mul_div_cancel_left b two_pos]
  · have hm : ∀ n, (2 * n + 1) % 2 = 1 := fun n => Nat.mul_add_mod 2 n 1
    have hd : ∀ n, (2 * n + 1) / 2 = n := fun n => by rw [Nat.mul_add_div two_pos]; rfl
    rw [if_neg fun h => absurd (hm a ▸ h.1) one_ne_zero, if_pos ⟨hm a, hm b⟩, hd, hd]
  · rw [if_neg fun h' => h (h'.1.trans h'.2.symm), if_neg fun h' => h (h'.1.trans h'.2.symm), zero_add]

/-- T2c (finding F5, repaired).  The pre-fix code multiplied the spin-DOWN entries with the phase array of the spin-UP
    R list.  Already for the same two R vectors listed in a different order this is a different matrix:
    box (1,1,1) (the transform is the plain sum), phases `φ(R) = R₁ + 2`, up list `[0, e₁]`, down entries
    `[(e₁, 1), (0, 10)]`:  own list 3 + 20 = 23,  up list 2 + 30 = 32. -/
theorem old_soc_corner_differs :
    let Finv : (Vec3 → Rat) → Vec3 → Rat := fun B _ => B (0, 0, 0)
    let φ : Vec3 → Rat := fun R => (R.1 : Rat) + 2
    let up : List Vec3 := [(0, 0, 0), (1, 0, 0)]
    let down : List (Vec3 × Rat) := [((1, 0, 0), 1), ((0, 0, 0), 10)]
    cornerPath Finv (1, 1, 1) (fun _ => 1) φ down (0, 0, 0) = 23 ∧
    cornerPathOld Finv (1, 1, 1) (fun _ => 1) φ up down (0, 0, 0) = 32 := by
  decide +kernel

/-! ## T3 — phonon systems -/

/-- T3a.  `phonon_freq_from_square` = `sign(E)·g(|E|)` (with `g` the square root on `[0,∞)`) is an odd map, and monotone
    whenever `g` is monotone and non-negative on `[0,∞)` — so it keeps the ascending order in which `eigvalsh` returns the
    bands, for negative ("imaginary-frequency") eigenvalues too. -/
theorem phonon_map_odd_monotone {K : Type} [Field K] [LinearOrder K] [IsStrictOrderedRing K] (g : K → K)
    (h0 : g 0 = 0) (hg : ∀ x y, 0 ≤ x → x ≤ y → g x ≤ g y) (hpos : ∀ x, 0 ≤ x → 0 ≤ g x) :
    (∀ E, phononFreq g (-E) = -phononFreq g E) ∧ (∀ E E', E ≤ E' → phononFreq g E ≤ phononFreq g E') := by
  unfold phononFreq
  refine ⟨fun E => ?_, fun E E' h => ?_⟩
  · rcases lt_trichotomy E 0 with h | rfl | h
    · rw [if_neg (not_lt.2 (neg_nonneg.2 h.le)), if_pos h, neg_neg]
    · simp only [neg_zero, lt_irrefl, if_false, h0]
    · rw [if_pos (neg_lt_zero.2 h), if_neg (lt_asymm h), neg_neg]
  · by_cases h1 : E < 0 <;> by_cases h2 : E' < 0
    · rw [if_pos h1, if_pos h2]
      exact neg_le_neg (hg (-E') (-E) (neg_nonneg.2 h2.le) (neg_le_neg h))
    · rw [if_pos h1, if_neg h2]
      exact (neg_nonpos.2 (hpos (-E) (neg_nonneg.2 h1.le))).trans (hpos E' (not_lt.1 h2))
    · exact (h1 (h.trans_lt h2)).elim
    · rw [if_neg h1, if_neg h2]
      exact hg E E' (not_lt.1 h1) h

/-- T3b (corner theorem for phonon systems).  The code applies `phononFreq` entrywise AFTER the diagonalisation of the corner
    matrix.  That matrix is the dynamical matrix at the corner k-point (`parallelepiped_corner_hamiltonian`), so whatever is
    computed from it — any spectrum routine `spec` (eigvalsh), any entrywise map `f` — is computed from the matrix at the
    corner k-point.  The statement is this congruence and nothing more: it uses no property of `spec`, `f` or `phononFreq`. -/
theorem phonon_corner_frequencies {K E : Type} [Field K] {A : Type} [AddCommGroup A] {ex : A → K} (hex : IsExp ex)
    (N : Mesh) (h1 : 0 < N.1) (h2 : 0 < N.2.1) (h3 : 0 < N.2.2)
    (χ : Vec3 → Vec3 → K) (hper : ∀ m R, χ m R = χ m (vmod R N))
    (Finv : (Vec3 → K) → Vec3 → K) (hF : IDFTContract N χ Finv)
    (m : Vec3) (hm : m ∈ gridPoints N) (km kK h : A × A × A)
    (hχ : ∀ R, χ m R = ex (kdot km R))
    (χd : Vec3 → K) (hχd : ∀ R, χd R = ex (kdot kK R)) (ix iy iz : Bool)
    (entries : Nat → Nat → List (Vec3 × K)) (spec : (Nat → Nat → K) → List E) (f : E → E) :
    (spec fun a b => cornerPath Finv N χd
        (cornerPhase (fun r => ex (r • h.1)) (fun r => ex (r • h.2.1)) (fun r => ex (r • h.2.2)) ix iy iz) (entries a b) m).map f
      = (spec fun a b => explicitSum (fun R => ex (kdot (kadd (kadd km kK) (cornerVec h ix iy iz)) R)) (entries a b)).map f := by
  congr 2
  funext a b
  exact parallelepiped_corner_hamiltonian hex N h1 h2 h3 χ hper Finv hF m hm km kK h hχ χd hχd ix iy iz (entries a b)

/-- T3c.  The map must be applied exactly ONCE: it is not idempotent (`16 ↦ 4 ↦ 2`, `−16 ↦ −4 ↦ −2`), so corner values that
    are converted a second time are no longer the frequencies at the corner k-points (nor in the units of the centre values). -/
theorem phonon_map_not_idempotent :
    phononFreq sqrtExact (16 : Rat) = 4 ∧ phononFreq sqrtExact (phononFreq sqrtExact (16 : Rat)) = 2 ∧
    phononFreq sqrtExact (phononFreq sqrtExact (-16 : Rat)) = -2 := by
  decide +kernel

/-! ## T4 — k.p systems -/

/-- T4.  `Data_K_k.E_K_corners_*` evaluates the user's Hamiltonian at `fold((p + dK) mod 1 + v)`; this is the direct
    evaluation `fold(p + dK + v)` at the corner k-point: reducing the FFT k-point modulo 1 first changes nothing because
    the folding `k ↦ (k + ½) mod 1 − ½` of `SystemKP` is 1-periodic — for every Hamiltonian function (any codomain), every
    FFT point `p`, shift `dK` and corner / vertex vector `v`. -/
theorem kp_corner_is_direct_evaluation {α : Type} (ham : QVec3 → α) (p dK v : QVec3) :
    kpCorner ham p dK v = kpDirect ham p dK v :=
  congrArg ham (foldV_fracV_add _ v)

/-- T4 (Cartesian convention, any reciprocal cell).  With `k_vector_cartesian=True` the user's Hamiltonian receives
    `k_red2cart(fold(·))`; the corner evaluation is again the direct one, for every reciprocal cell `B` (hexagonal, oblique,
    anisotropic, …). -/
theorem kp_corner_is_direct_evaluation_cart {α : Type} (ham : QVec3 → α) (B : Mat3) (p dK v : QVec3) :
    kpCornerCart ham B p dK v = kpDirectCart ham B p dK v :=
  congrArg (fun k => ham (redToCart B k)) (foldV_fracV_add _ v)

/-- T4 (the corner offset, explicit).  In Cartesian coordinates the corner k-point is
    `corner_k = K·B + Σ_i s_i·dK_i·b_i`  (`s = (ix,iy,iz) − ½`, `b_i` the rows of the reciprocal cell), i.e. the reduced
    offset `s∘dK` of the code equals the ROW-vector contraction `s·dK_cart` with `dK_cart = diag(dK)·B`
    (`KpointBZparallel.dK_fullBZ_cart`) — for every lattice.  When `dK_cart` is symmetric (every cubic `kmax` box) the
    transposed contraction `dK_cart·s` gives the same vector (second part); `transposed_offset_differs` shows that it
    does not otherwise. -/
theorem corner_offset_cartesian (B : Mat3) (k s dK : QVec3) :
    redToCart B (qadd k (hadamard s dK)) = qadd (redToCart B k) (vecMat s (dKcart dK B)) ∧
    (let M := dKcart dK B
     M.1.2.1 = M.2.1.1 → M.1.2.2 = M.2.2.1 → M.2.1.2.2 = M.2.2.2.1 → matVec M s = vecMat s M) := by
  refine ⟨?_, fun h12 h13 h23 => ?_⟩
  · simp only [redToCart, vecMat, qadd, smulQ, hadamard, dKcart]
    refine Prod.ext ?_ (Prod.ext ?_ ?_) <;> simp only <;> ring
  · simp only [matVec, vecMat, dotQ, qadd, smulQ]
    refine Prod.ext ?_ (Prod.ext ?_ ?_) <;> simp only
    · rw [h12, h13]; ring
    · rw [← h12, h23]; ring
    · rw [← h13, ← h23]; ring

/-- The transposed contraction is NOT the corner offset in a non-orthogonal cell: oblique cell with rows (1,0,0), (−½,1,0), (¼,½,1), isotropic `dK = ½`,
    corner `s = (½,½,−½)`: the correct offset is `s·dK_cart = (1/16, ⅛, −¼)`, the transposed contraction gives
    `dK_cart·s = (¼, ⅛, −1/16)`. -/
theorem transposed_offset_differs :
    let B : Mat3 := ((1, 0, 0), (-1 / 2, 1, 0), (1 / 4, 1 / 2, 1))
    let dK : QVec3 := (1 / 2, 1 / 2, 1 / 2)
    let s : QVec3 := (1 / 2, 1 / 2, -1 / 2)
    vecMat s (dKcart dK B) = (1 / 16, 1 / 8, -1 / 4) ∧ matVec (dKcart dK B) s = (1 / 4, 1 / 8, -1 / 16) := by
  decide +kernel

/-! ## non-vacuity -/

/-- the phonon map on perfect squares, both signs: `[-9/4, 0, 1/4, 4] ↦ [-3/2, 0, 1/2, 2]` -/
example : [(-9 / 4 : Rat), 0, 1 / 4, 4].map (phononFreq sqrtExact) = [-3 / 2, 0, 1 / 2, 2] := by decide +kernel

/-- folding: the FFT point 2/3 + dK 5/6 reduced mod 1 is 1/2; with the corner vector 1/8 the folded argument is −3/8,
    the same as folding 2/3 + 5/6 + 1/8 directly -/
example : fold1 (frac1 (2 / 3 + 5 / 6) + 1 / 8) = -3 / 8 ∧ fold1 (2 / 3 + 5 / 6 + 1 / 8) = -3 / 8 := by decide +kernel

/-- `IsExp` is satisfiable non-trivially: `ex r = 2^r` on `A = ℤ`, `K = ℚ` -/
example : IsExp (K := ℚ) (A := ℤ) (fun r => (2 : ℚ) ^ r) :=
  ⟨fun x y => zpow_add₀ (by norm_num) x y, by simp⟩

/-- the corner phase on a concrete case: axis characters `2^r`, half steps (1,1,1), corner (1,0,1), R = (1,2,3):
    `2¹ · 2⁻² · 2³ = 4 = 2^{(1,−1,1)·(1,2,3)}` -/
example : cornerPhase (fun r => (2 : ℚ) ^ r) (fun r => (2 : ℚ) ^ r) (fun r => (2 : ℚ) ^ r) true false true (1, 2, 3) = 4 := by
  norm_num [cornerPhase, cornerFactor]

end WB.C33
