/-
  C05 — invariance under relabelling / co-centred rotation of the Wannier basis: property theorems.

  T1  `System_R.reorder` is conjugation by a permutation matrix (`reorder_is_conjugation`), it commutes with the
      derivative operator `i(R + t_j - t_i)` at every order because matrices, centres and shifts are permuted with
      the same index list (`reorder_commutes_with_derivative`), and with the Fourier sum (`reorder_fourier`); the
      spectrum is unchanged (`charpoly_reorder`).
  T2  a k-independent unitary that mixes only functions with equal centres commutes with the derivative operator at
      every order (`cocentred_rotation_commutes_with_derivative`); without the hypothesis it does not
      (`noncocentred_rotation_breaks_derivative`).
  T3  spectrum (characteristic polynomial) and every Hamiltonian-gauge matrix are unchanged by a unitary change of
      the Wannier basis (`charpoly_unitary_conj`, `hamiltonian_gauge_unchanged`); traces: C04.
  Then: `reorder` treats every stored matrix; the shift bookkeeping of `Rvectors` along histories of operations.
  Not proved here: that each calculator is a function of the Hamiltonian-gauge matrices and energies only — that is
  the structure of the code (Data_K.Xbar / E_K), exercised by the oracle (run() before/after the transformation).
-/
import WB.Model.C05
import WB.Lemmas.C04Gauge
import Mathlib.LinearAlgebra.Matrix.Charpoly.Basic
import Mathlib.Data.Matrix.PEquiv
import Mathlib.LinearAlgebra.Matrix.Permutation

namespace WB.C05
open Matrix WB.C04

/-! ## T1: reordering -/

section reorder
variable {K : Type} [Field K]

omit [Field K] in
theorem reorderM_eq_submatrix {n : ℕ} (p : Equiv.Perm (Fin n)) (X : ℕ → ℕ → K) (i j : Fin n) :
    reorderM (fun a => if h : a < n then (p ⟨a, h⟩ : ℕ) else a) X i j
      = (Matrix.of fun a b : Fin n => X a b).submatrix p p i j := by
  unfold reorderM
  beta_reduce
  rw [dif_pos i.isLt, dif_pos j.isLt]
  rfl

/-- **T1a.**  `X'[i,j] = X[p i, p j]` is conjugation by the permutation matrix of `p`:
    `X' = P X P⁻¹` with `P = p.toPEquiv.toMatrix`, `P⁻¹ = Pᵀ`. -/
theorem reorder_is_conjugation {n : ℕ} (p : Equiv.Perm (Fin n)) (X : Matrix (Fin n) (Fin n) K) :
    X.submatrix p p = p.toPEquiv.toMatrix * X * p.symm.toPEquiv.toMatrix
      ∧ (p.toPEquiv.toMatrix : Matrix (Fin n) (Fin n) K) * p.symm.toPEquiv.toMatrix = 1
      ∧ (p.symm.toPEquiv.toMatrix : Matrix (Fin n) (Fin n) K) = (p.toPEquiv.toMatrix)ᵀ := by
  refine ⟨?_, ?_, ?_⟩
  · rw [PEquiv.toMatrix_toPEquiv_mul, PEquiv.mul_toMatrix_toPEquiv]
    ext i j; simp
  · rw [← PEquiv.toMatrix_trans, ← Equiv.toPEquiv_trans, Equiv.self_trans_symm, Equiv.toPEquiv_refl,
      PEquiv.toMatrix_refl]
  · rw [Equiv.toPEquiv_symm, PEquiv.toMatrix_symm]

/-- **T1b.**  Reordering (matrices AND centres/shifts, as `System_R.reorder` + `Rvectors.reorder` do) commutes with the
    derivative operator of every order — by definition: `reorderM p`, `reorderC p` are precomposition with the same `p`. -/
theorem reorder_commutes_with_derivative (I : K) (L : ℕ → ℕ → K) (R : ℕ → K) (t : ℕ → ℕ → K) (X : ℕ → ℕ → K)
    (p : ℕ → ℕ) (axes : List ℕ) (i j : ℕ) :
    derivX I L R (reorderC p t) (reorderM p X) axes i j = reorderM p (derivX I L R t X axes) i j := rfl

/-- when the centres are NOT permuted with the matrices (a `reorder` that forgets `wannier_centers`/`shifts`), the
    entry `X (p i) (p j)` meets the derivative factor of the centres `t i`, `t j` instead of `t (p i)`, `t (p j)` -/
theorem reorder_without_centres (I : K) (L : ℕ → ℕ → K) (R : ℕ → K) (t : ℕ → ℕ → K) (X : ℕ → ℕ → K)
    (p : ℕ → ℕ) (axes : List ℕ) (i j : ℕ) :
    derivX I L R t (reorderM p X) axes i j = X (p i) (p j) * derFac I L R (t i) (t j) axes := rfl

/-- **T1c.**  The Fourier sum of the reordered matrices is the reordered Fourier sum, `H'(k) = P H(k) Pᵀ` (by definition, as T1b). -/
theorem reorder_fourier (Rs : List (ℕ → K)) (ph : (ℕ → K) → K) (X : (ℕ → K) → ℕ → ℕ → K) (p : ℕ → ℕ) (i j : ℕ) :
    (Rs.map fun R => ph R * reorderM p (X R) i j).sum = reorderM p (fun a b => (Rs.map fun R => ph R * X R a b).sum) i j :=
  rfl

theorem charpoly_reorder {n : ℕ} (p : Equiv.Perm (Fin n)) (X : Matrix (Fin n) (Fin n) K) :
    (X.submatrix p p).charpoly = X.charpoly :=
  Matrix.charpoly_reindex p.symm X

end reorder

/-! ## T2: co-centred unitary rotation -/

section rotation
variable {K : Type} [Field K] [StarRing K]

/-- `cj_had` on the model of `Data_K._rotate` (the labels below: the centres) -/
theorem rotate_label_factor (n : ℕ) (U X : ℕ → ℕ → K) {Lab : Type} (lab : ℕ → Lab) (φ : Lab → Lab → K)
    (hU : ∀ a i : Fin n, U a i ≠ 0 → lab a = lab i) (a d : Fin n) :
    rotate star n U (fun i j => X i j * φ (lab i) (lab j)) a d = rotate star n U X a d * φ (lab a) (lab d) := by
  rw [rotate_eq, rotate_eq]
  exact congrFun (congrFun (cj_had (toM n U) (toM n U) (toM n X) (fun i => lab i) (fun i => lab i) φ hU hU) a) d

/-- **T2.**  If `U` mixes only Wannier functions with equal centres (`U a i ≠ 0 → t a = t i`), rotating all
    real-space matrices by `U` commutes with the derivative operator at every order: `D[U† X U] = U† D[X] U`. -/
theorem cocentred_rotation_commutes_with_derivative (n : ℕ) (I : K) (L : ℕ → ℕ → K) (R : ℕ → K) (t : ℕ → ℕ → K)
    (U X : ℕ → ℕ → K) (hU : ∀ a i : Fin n, U a i ≠ 0 → t a = t i) (axes : List ℕ) (a d : Fin n) :
    derivX I L R t (rotate star n U X) axes a d = rotate star n U (derivX I L R t X axes) a d := by
  unfold derivX
  exact (rotate_label_factor n U X t (fun ti tj => derFac I L R ti tj axes) hU a d).symm

/-- the hypothesis of T2 is needed: two functions at different centres (0 and 1/2 along x), mixed by
    `U = [[1, 1], [-1, 1]]` (√2 times a rotation), first derivative along x — `D[UᵀXU] ≠ Uᵀ D[X] U` -/
theorem noncocentred_rotation_breaks_derivative :
    ∃ (U X : ℕ → ℕ → ℚ) (t : ℕ → ℕ → ℚ) (L : ℕ → ℕ → ℚ) (R : ℕ → ℚ),
      derivX (1 : ℚ) L R t (rotate id 2 U X) [0] 0 1 ≠ rotate id 2 U (derivX (1 : ℚ) L R t X [0]) 0 1 := by
  refine ⟨fun i j => if i = 1 ∧ j = 0 then -1 else 1, fun i j => if i = j then 0 else 1,
    fun i b => if i = 1 ∧ b = 0 then 1/2 else 0, fun b a => if b = a then 1 else 0, fun _ => 0, ?_⟩
  decide +kernel

/-- two functions on one site (equal centres) meet the hypothesis of T2 -/
example : ∀ a i : Fin 2, (fun i j : ℕ => if i = 1 ∧ j = 0 then (-1 : ℚ) else 1) a i ≠ 0 →
    (fun (_ : ℕ) (_ : ℕ) => (1/3 : ℚ)) a = (fun (_ : ℕ) (_ : ℕ) => (1/3 : ℚ)) i := by
  intro a i _; rfl

/-! ## T3: spectrum and Hamiltonian-gauge matrices -/

/-- **T3a.**  A unitary change of the Wannier basis leaves the spectrum (characteristic polynomial) of `H(k)`
    unchanged. -/
theorem charpoly_unitary_conj {n : ℕ} (U X : Matrix (Fin n) (Fin n) K) (hU : U * Uᴴ = 1) :
    (Uᴴ * X * U).charpoly = X.charpoly := by
  rw [Matrix.charpoly_mul_comm, mul_conjTranspose_cancel hU]

/-- **T3b.**  If `V` are eigenvectors of `H` (Wannier → Hamiltonian gauge), `U†V` are eigenvectors of `U†HU`, and
    EVERY matrix in the Hamiltonian gauge is literally unchanged. -/
theorem hamiltonian_gauge_unchanged {n : ℕ} (U V X : Matrix (Fin n) (Fin n) K) (hU : U * Uᴴ = 1) :
    (Uᴴ * V)ᴴ * (Uᴴ * X * U) * (Uᴴ * V) = Vᴴ * X * V := by
  rw [Matrix.conjTranspose_mul, Matrix.conjTranspose_conjTranspose]
  simp only [Matrix.mul_assoc, mul_conjTranspose_cancel hU]

/-- T3b for the permutation: the reordered system in the Hamiltonian gauge (`V' = P V`) -/
theorem hamiltonian_gauge_unchanged_reorder {n : ℕ} (p : Equiv.Perm (Fin n)) (V X : Matrix (Fin n) (Fin n) K) :
    (V.submatrix p id)ᴴ * X.submatrix p p * V.submatrix p id = Vᴴ * X * V := by
  rw [Matrix.conjTranspose_submatrix, Matrix.submatrix_mul_equiv, Matrix.submatrix_mul_equiv, Matrix.submatrix_id_id]

end rotation


/-! ## reorder treats EVERY stored matrix -/

/-- After `System_R.reorder` the system has exactly the keys it had before, in the same
    order, and the matrix of every key — `Ham`, `AA`, …, but also `OO`, `GG`, `SA`, `SHA`, `SR`, `SH`, `SHR`, or any
    name a user stored — is the permuted one. -/
theorem reorder_all_matrices {K : Type} (p : ℕ → ℕ) (mats : List (String × (ℕ → ℕ → K))) :
    (reorderSys p mats).map Prod.fst = mats.map Prod.fst ∧
    ∀ kv ∈ mats, (kv.1, reorderM p kv.2) ∈ reorderSys p mats := by
  constructor
  · unfold reorderSys; rw [List.map_map]; rfl
  · intro kv hkv
    unfold reorderSys
    exact List.mem_map.mpr ⟨kv, hkv, rfl⟩

/-- with a fixed list of names this fails: a matrix outside the list (`OO`) keeps the old order while the centres
    and the listed matrices are permuted -/
theorem reorder_fixed_keys_misses_matrix :
    let X : ℕ → ℕ → ℚ := fun a b => ((10 * a + b : ℕ) : ℚ)
    let out := reorderSysKeys ["Ham", "AA", "BB", "CC", "SS", "FF"] (ofListFn [1, 0]) [("Ham", X), ("OO", X)]
    (out.map fun kv => (kv.1, kv.2 0 0)) = [("Ham", 11), ("OO", 0)] ∧
    ((reorderSys (ofListFn [1, 0]) [("Ham", X), ("OO", X)]).map fun kv => (kv.1, kv.2 0 0)) = [("Ham", 11), ("OO", 11)] := by
  decide +kernel

/-! ## multi-step histories: the shift bookkeeping of `Rvectors` -/

theorem stepShifts_ok (s : Shifts) (op : SOp) (h : ShiftsOk s) : ShiftsOk (stepShifts s op) := by
  obtain ⟨h1, h2⟩ := h
  cases op with
  | doubleSpin => exact ⟨congrArg dupList h1, congrArg dupList h2⟩
  | reorder p => exact ⟨congrArg (permList · p) h1, congrArg (permList · p) h2⟩

/-- After EVERY history of `double_spin` and `reorder` operations (any index lists, any number of
    steps) on a freshly built system, the left and the right shift arrays both equal the centres of the current
    Wannier functions: `reorder` permutes both arrays unconditionally, `double_spin` duplicates both. -/
theorem shifts_follow_centres (c : List Nat) (ops : List SOp) : ShiftsOk (runShifts (Shifts.fresh c) ops) := by
  have h : ShiftsOk (Shifts.fresh c) := ⟨rfl, rfl⟩
  generalize Shifts.fresh c = s at h ⊢
  induction ops generalizing s with
  | nil => exact h
  | cons op rest ih => exact ih _ (stepShifts_ok s op h)

/-- the pair `(t_i, t_j)` entering `R + t_j - t_i` is then the pair of centres of the relabelled functions `i, j` -/
theorem shift_pairs_consistent (c : List Nat) (ops : List SOp) (i j : Nat) :
    let s := runShifts (Shifts.fresh c) ops
    (s.left.getD i 0, s.right.getD j 0) = (s.centres.getD i 0, s.centres.getD j 0) := by
  obtain ⟨h1, h2⟩ := shifts_follow_centres c ops
  simp only [h1, h2]

/-- Why a flag-guarded rule is wrong, and why it hides.  "Permute the right array only if `has_shifts_right`"
    keeps the law for `[reorder p]` on a fresh system (the right array is the same object as the left one), but after
    `double_spin` the arrays are separate objects while the flag is still false: for two centres `0, 1` the history
    `[double_spin, reorder [2,3,0,1]]` leaves the right shifts in the old order. -/
theorem flag_guarded_reorder_breaks_after_double_spin :
    ShiftsOk (runShiftsFlag (Shifts.fresh [0, 1]) [SOp.reorder [1, 0]]) ∧
    ¬ ShiftsOk (runShiftsFlag (Shifts.fresh [0, 1]) [SOp.doubleSpin, SOp.reorder [2, 3, 0, 1]]) ∧
    (runShiftsFlag (Shifts.fresh [0, 1]) [SOp.doubleSpin, SOp.reorder [2, 3, 0, 1]]).right = [0, 0, 1, 1] ∧
    (runShiftsFlag (Shifts.fresh [0, 1]) [SOp.doubleSpin, SOp.reorder [2, 3, 0, 1]]).centres = [1, 1, 0, 0] ∧
    ShiftsOk (runShifts (Shifts.fresh [0, 1]) [SOp.doubleSpin, SOp.reorder [2, 3, 0, 1]]) := by
  decide +kernel

/-! ## non-vacuity of the executable model -/

/-- a concrete reorder: swapping two functions moves rows, columns and centres together -/
example : (List.range 2).map (fun i => (List.range 2).map fun j =>
      reorderM (ofListFn [1, 0]) (fun a b => ((10 * a + b : ℕ) : ℚ)) i j) = [[11, 10], [1, 0]] := by decide +kernel

/-- a concrete history: two centres, double_spin, then a relabelling that moves functions between the centres -/
example : (runShifts (Shifts.fresh [0, 1]) [SOp.doubleSpin, SOp.reorder [2, 3, 0, 1]]).right = [1, 1, 0, 0] := by
  decide +kernel

end WB.C05
