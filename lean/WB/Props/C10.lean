/-
  C10 — property theorems: after every iteration of run() with adaptive refinement,
  result_all = Σ_i factor_i · result_i over the current K-point list, whichever points are refined, however the
  refined points are merged, for memory / dump storage; iteration 0 for discarded results.
  Helper lemmas: WB/Lemmas/C10.lean, WB/Lemmas/C10Names.lean (storage names).
-/
import WB.Lemmas.C10
import WB.Lemmas.C10Names

namespace WB.C10

variable {K : Type} [Field K]

/-- T1 (any update rule that drops only zero differences).  For every initial K-point list and every sequence of
    refinement events per iteration (divisions, merges of new points into old or new ones), in memory and dump
    storage: no RuntimeError, `result_all = Σ f_i r_i`, the recorded `factors` are the current ones, and every per-K
    result can be read back and is what `paralfunc` returned. -/
theorem refine_invariant_of_keep (keep : K → Bool) (hk : ∀ d, keep d = false → d = 0)
    (mode : Mode) (hm : mode ≠ Mode.clear) (init : List (K × K)) (iters : List (List (RefOp K))) :
    let s := runIters keep mode init iters
    s.err = false ∧ s.resultAll = some (wsum s.pts) ∧ s.factors = s.pts.map (·.f) ∧
      ∀ p ∈ s.pts, p.ev = true ∧ getResult p = some p.r := by
  have h : ∀ s : State K, Synced s → s.mode ≠ Mode.clear → Synced (iters.foldl (iteration keep) s) := by
    induction iters with
    | nil => exact fun _ h _ => h
    | cons ops iters ih =>
      exact fun s h hm => ih _ (synced_iteration keep hk h hm ops) (by rw [iteration_mode]; exact hm)
  have hs := h _ (synced_first keep mode hm init) (by rw [iterate_mode]; exact hm)
  exact ⟨hs.ok, hs.sum, hs.factors, hs.stored⟩

/-- T3 (the repaired rule `fac != 0`): unconditional. -/
theorem refine_invariant [DecidableEq K] (mode : Mode) (hm : mode ≠ Mode.clear) (init : List (K × K))
    (iters : List (List (RefOp K))) :
    let s := runIters keepNew mode init iters
    s.err = false ∧ s.resultAll = some (wsum s.pts) :=
  let h := refine_invariant_of_keep keepNew eq_zero_of_keepNew_eq_false mode hm init iters
  ⟨h.1, h.2.1⟩

/-- T3 after EVERY iteration (what run() saves as `<fout_name>-<key>_iter-XXXX`), not only the last one. -/
theorem refine_invariant_every_iteration [DecidableEq K] (mode : Mode) (hm : mode ≠ Mode.clear)
    (init : List (K × K)) (iters : List (List (RefOp K))) (k : Nat) :
    let s := runIters keepNew mode init (iters.take k)
    s.err = false ∧ s.resultAll = some (wsum s.pts) :=
  refine_invariant mode hm init (iters.take k)

/-- T3' (an iteration WITHOUT any new evaluation).  If after the refinement events every K-point is already
    evaluated (all new children were absorbed by evaluated points — restart from an earlier refinement level, or
    coinciding points on hexagonal / bcc grids), process() evaluates nothing and the update still has to run:
    afterwards `result_all = Σ f_i r_i` over the list with its MOVED weights. -/
theorem refine_invariant_no_new_evaluation [DecidableEq K] (mode : Mode) (hm : mode ≠ Mode.clear)
    (init : List (K × K)) (iters : List (List (RefOp K))) (ops : List (RefOp K))
    (hall : ∀ p ∈ (ops.foldl refStep (runIters keepNew mode init iters)).pts, p.ev = true) :
    let s1 := ops.foldl refStep (runIters keepNew mode init iters)
    let s2 := runIters keepNew mode init (iters ++ [ops])
    (processPts s1.mode s1.pts) = (s1.pts, 0) ∧ s2.pts = s1.pts ∧
      s2.err = false ∧ s2.resultAll = some (wsum s1.pts) := by
  intro s1 s2
  have hproc : processPts s1.mode s1.pts = (s1.pts, 0) := by
    rw [processPts_eq, map_procPt_all_ev _ _ hall, unevSum_all_ev _ hall]
  have hpts : s2.pts = s1.pts := by
    show (runIters keepNew mode init (iters ++ [ops])).pts = _
    rw [runIters_snoc]
    exact (iterate_pts _ s1).trans (map_procPt_all_ev _ _ hall)
  have h := refine_invariant mode hm init (iters ++ [ops])
  exact ⟨hproc, hpts, h.1, hpts ▸ h.2⟩

/-- non-vacuity, and the defect class it guards against: point 0 is divided into one child which is absorbed by the
    evaluated point 1 — nothing is left to evaluate, the weights moved from (1/2, 1/2) to (0, 1).  The real update
    gives 7; the rule "skip the update when nothing was evaluated" keeps the previous value 6. -/
theorem skip_rule_loses_weight_changes :
    let ops := [RefOp.divide 0 [(9 : Rat)], RefOp.merge 1 2]
    let good := runIters keepNew Mode.memory [((5 : Rat), 1/2), (7, 1/2)] [ops]
    let bad := runItersSkip keepNew Mode.memory [((5 : Rat), 1/2), (7, 1/2)] [ops]
    good.pts.map (·.f) = [0, 1] ∧ good.pts.all (·.ev) = true ∧ good.resultAll = some (wsum good.pts) ∧
      good.resultAll = some 7 ∧
    bad.pts.map (·.f) = [0, 1] ∧ bad.resultAll = some 6 ∧ wsum bad.pts = 7 ∧ bad.factors = [1/2, 1/2] := by
  decide +kernel

/-- non-vacuity: a 3-iteration history on 2 initial points with divisions, a merge of two new points, a merge of a
    new point into an old (dead) one — dump storage -/
example :
    let s := runIters keepNew Mode.dump [((5 : Rat), 1/2), (7, 1/2)]
      [[RefOp.divide 0 [1, 2, 3, 4], RefOp.merge 2 3], [RefOp.divide 2 [10, 20], RefOp.divide 1 [30, 40], RefOp.merge 0 5]]
    s.resultAll = some (wsum s.pts) ∧ s.pts.map (·.f) = [1/8, 0, 0, 1/8, 1/8, 1/8, 1/4, 1/4] ∧ s.resultAll = some (43/2) := by
  decide +kernel

/-- T2 — the defect that was repaired (F10): with the ORIGINAL rule `abs(fac) > 1e-8` the invariant fails as soon
    as a point whose weight is ≤ 1e-8 is refined.  History: one K-point (NKdiv = 1), `adpt_mesh = [1,1,100]`,
    the refined point is always the last child; in the 5th refinement the parent has weight 1e-8 exactly, its
    weight change is dropped and `result_all` keeps 1e-8·r of a point that no longer counts. -/
theorem old_rule_loses_weight :
    let child := List.replicate 99 (0 : Rat) ++ [1]
    let iters := [[RefOp.divide 0 child], [RefOp.divide 100 child], [RefOp.divide 200 child],
                  [RefOp.divide 300 child], [RefOp.divide 400 child]]
    let sOld := runIters (keepOld (1 / 100000000)) Mode.memory [((1 : Rat), 1)] iters
    let sNew := runIters keepNew Mode.memory [((1 : Rat), 1)] iters
    sOld.resultAll = some (wsum sOld.pts + 1 / 100000000) ∧ sNew.resultAll = some (wsum sNew.pts) ∧
    wsum sNew.pts = 1 / 10000000000 := by
  -- Only the run with the original rule is evaluated.  `key` is stated for a variable history and applied without
  -- introducing the `let`s: comparing two spellings of the closed run makes the kernel evaluate it once more.
  have key : ∀ its : List (List (RefOp Rat)),
      let sOld := runIters (keepOld (1 / 100000000)) Mode.memory [((1 : Rat), 1)] its
      let sNew := runIters keepNew Mode.memory [((1 : Rat), 1)] its
      sOld.resultAll = some (wsum sOld.pts + 1 / 100000000) ∧ wsum sOld.pts = 1 / 10000000000 →
      sOld.resultAll = some (wsum sOld.pts + 1 / 100000000) ∧ sNew.resultAll = some (wsum sNew.pts) ∧
      wsum sNew.pts = 1 / 10000000000 := by
    intro its sOld sNew hold
    have hpts : sOld.pts = sNew.pts := (runIters_pts ..).trans (runIters_pts ..).symm
    exact ⟨hold.1, (refine_invariant Mode.memory (by decide) _ its).2, hpts ▸ hold.2⟩
  exact key _ (by decide +kernel)

/-- T4 (discarded results).  Without `allow_restart` and with `adpt_num_iter = 0` the per-K results are cleared;
    run() then performs iteration 0 only, and the result is the weighted sum. -/
theorem clear_mode_iteration0 (keep : K → Bool) (init : List (K × K)) :
    let s := runIters keep Mode.clear init []
    s.err = false ∧ s.resultAll = some (wsum s.pts) := by
  intro s
  have hs : s = _ := iterate_start keep Mode.clear init
  rw [hs]
  exact ⟨rfl, congrArg some (unevSum_eq_wsum _ _ (start_unev _ init))⟩

/-- the guard `store_results = allow_restart or adpt_num_iter > 0` of run() is needed: with cleared results a
    refinement iteration that changes the weight of an old K-point raises (get_result of a cleared point) -/
example : (runIters keepNew Mode.clear [((1 : Rat), 1)] [[RefOp.divide 0 [2, 3]]]).err = true := by decide +kernel

/-! ## storage names (why `KP.file` may be treated as the K-point's own file)

  `NEvent` histories cover fresh runs, restarts at any point, any numbers of new points per iteration and any
  deletions of new points by the run-level `exclude_equiv_points`. -/

omit [Field K] in
/-- T5.  With the naming rule of the code (name = position in K_list, assigned at the top of the loop body for the
    points behind `nk_prev`): after every event of every history, every K-point of the list is stored under the name
    that equals its position, and reading that file back yields its own result; no dump ever lacked a path. -/
theorem storage_names_own_file (events : List (NEvent K)) (i : Nat) (p : NP K)
    (hp : (nrun NameRule.atIterStart events).pts[i]? = some p) :
    p.ev = true ∧ p.name = some i ∧ readBack (nrun NameRule.atIterStart events) p = some p.r ∧
      (nrun NameRule.atIterStart events).err = false := by
  have h := ninv_run (K := K) events
  obtain ⟨h1, h2, h3⟩ := allNamed_get _ 0 _ h.named i p hp
  simp only [Nat.zero_add] at h2 h3
  refine ⟨h1, h2, ?_, h.ok⟩
  unfold readBack
  rw [h2]
  exact h3

omit [Field K] in
/-- T5 (injectivity).  Distinct K-points of the list never share a storage file. -/
theorem storage_names_injective_on_live_points (events : List (NEvent K)) (i j : Nat) (p q : NP K)
    (hp : (nrun NameRule.atIterStart events).pts[i]? = some p)
    (hq : (nrun NameRule.atIterStart events).pts[j]? = some q) (hij : i ≠ j) :
    p.name ≠ q.name ∧ p.name.isSome = true := by
  obtain ⟨_, h1, _, _⟩ := storage_names_own_file events i p hp
  obtain ⟨_, h2, _, _⟩ := storage_names_own_file events j q hq
  rw [h1, h2]
  exact ⟨by intro h; exact hij (Option.some.inj h), rfl⟩

/-- non-vacuity: 2 initial points; an iteration with 3 new points of which the one at position 3 is deleted; a
    restart; an iteration with 2 new points -/
example :
    let s := nrun NameRule.atIterStart
      [NEvent.iter [(10 : Rat), 11] [], NEvent.iter [20, 21, 22] [3], NEvent.restart, NEvent.iter [30, 31] []]
    s.pts.map (·.name) = [some 0, some 1, some 2, some 3, some 4, some 5] ∧
    s.pts.map (readBack s) = [some 10, some 11, some 20, some 22, some 30, some 31] := by decide +kernel

/-- the seeded rule T-C10 (names assigned after divide() but BEFORE exclude_equiv_points deletes duplicates) is
    wrong: the survivor behind a deleted point keeps a name beyond the end of the list, the next iteration hands the
    same name to a new point, whose dump overwrites the file — the earlier point reads back a foreign result. -/
theorem names_before_deletion_collide :
    let s := nrun NameRule.beforeDelete [NEvent.iter [(10 : Rat)] [], NEvent.iter [20, 21] [1], NEvent.iter [30] []]
    s.pts.map (·.r) = [10, 21, 30] ∧ s.pts.map (·.name) = [some 0, some 2, some 2] ∧
    s.pts.map (readBack s) = [some 10, some 30, some 30] := by decide +kernel

/-- the seeded rule T-C11 (name = number of K-points processed by THIS call) is right in an uninterrupted run and
    wrong after a restart: the counter starts again at 0 and the new point overwrites `_Kp-0.pickle`. -/
theorem per_run_counter_overwrites_after_restart :
    let fresh := nrun NameRule.perRunCounter [NEvent.iter [(10 : Rat), 11] [], NEvent.iter [20] []]
    let split := nrun NameRule.perRunCounter [NEvent.iter [(10 : Rat), 11] [], NEvent.restart, NEvent.iter [20] []]
    fresh.pts.map (readBack fresh) = [some 10, some 11, some 20] ∧
    split.pts.map (·.name) = [some 0, some 1, some 0] ∧
    split.pts.map (readBack split) = [some 20, some 11, some 20] := by decide +kernel

end WB.C10
