/-
  C29 — paths are built and tabulated faithfully: property theorems.

  Not proved here (oracle only): that `run()` evaluates every batch with the tabulators and concatenates the
  per-batch results (`TABresult.__add__`) — see harness/props/c29.py.
-/
import WB.Lemmas.C29Aux
import WB.Lemmas.C29Path
import Mathlib.Tactic.Ring

namespace WB.C29

/-! ## `Path.from_nodes` -/

/-- T1.  Reading the path at the labelled indices gives the non-None nodes with their labels, in order; the labelled
    indices increase strictly and lie inside the path. -/
theorem fromNodes_nodes_in_order (nodes : List (Option (Q3 × Nat))) (nks : List Nat) (r : PathM)
    (hn : ∀ n ∈ nks, 2 ≤ n) (h : fromNodes nodes nks = some r) :
    labelsRead r = someNodes nodes ∧ (r.labels.map (·.1)).Pairwise (· < ·) ∧ ∀ p ∈ r.labels, p.1 < r.K.length := by
  have hc := fromNodesLoop_spec nodes nks PathM.empty r inv_empty hn h
  exact ⟨hc.read, hc.inv.2, hc.inv.1⟩

/-- T2 (uniform sampling).  The loop on a real segment `a → b` with `n ≥ 2` points, from a state with `Inv` (every state
    inside a run of `fromNodes` is one: `fromNodesLoop_reaches`): the path holds `a + j/(n−1)·(b − a)`, `j < n−1`, behind
    the points stored so far, then `b`; both nodes carry their labels there. -/
theorem fromNodes_segment_uniform (a b : Q3) (la lb : Nat) (rest : List (Option (Q3 × Nat))) (nks : List Nat)
    (st r : PathM) (hinv : Inv st) (hn : ∀ n ∈ nks, 2 ≤ n)
    (h : fromNodesLoop (some (a, la) :: some (b, lb) :: rest) nks st = some r) :
    let n := nks.headD 2
    (∀ j, j < n - 1 → r.K.getD (st.K.length + j) (0, 0, 0) = lerp a b j (n - 1)) ∧
      r.K.getD (st.K.length + (n - 1)) (0, 0, 0) = b ∧
      (st.K.length, la) ∈ r.labels ∧ (st.K.length + (n - 1), lb) ∈ r.labels := by
  intro n
  rw [fromNodesLoop_some_some a b la lb rest nks st hn] at h
  have hc := fromNodesLoop_spec _ nks.tail _ r (appendNode_inv hinv ..) (two_le_of_mem_tail hn) h
  obtain ⟨f1, f2⟩ := hc.next_node b lb _ rfl
  have hK : (appendNode st a (segPts a b n).tail la st.breaks).K = st.K ++ segPts a b n :=
    congrArg (st.K ++ ·) (segPts_eq_cons a b n (two_le_headD nks hn)).symm
  have hl := hc.labels
  rw [hK] at f1 f2
  rw [List.length_append, segPts_length] at f2
  rw [appendNode_labels hinv] at hl
  refine ⟨fun j hj => ?_, ?_, mem_of_prefix_concat hl, mem_of_prefix_concat f2⟩
  · rw [getD_of_prefix f1 _ (by simp only [List.length_append, segPts_length, List.length_cons]; omega),
      List.append_assoc, getD_append_add, List.getD_append _ _ _ _ (by rw [segPts_length]; exact hj)]
    exact segPts_getD a b n j hj
  · have := getD_of_prefix_concat f1 (0, 0, 0)
    rwa [List.length_append, segPts_length] at this

/-- T3 (breaks).  A node followed by `None` (state with `Inv`, as in T2) is stored once, its index is a break, and the
    node after the `None` follows immediately. -/
theorem fromNodes_break (a : Q3) (la : Nat) (rest : List (Option (Q3 × Nat))) (nks : List Nat)
    (st r : PathM) (hinv : Inv st) (hn : ∀ n ∈ nks, 2 ≤ n)
    (h : fromNodesLoop (some (a, la) :: none :: rest) nks st = some r) :
    r.K.getD st.K.length (0, 0, 0) = a ∧ st.K.length ∈ r.breaks ∧ (st.K.length, la) ∈ r.labels ∧
      ∀ c lc rest', rest = some (c, lc) :: rest' →
        r.K.getD (st.K.length + 1) (0, 0, 0) = c ∧ (st.K.length + 1, lc) ∈ r.labels := by
  have hinv1 := appendNode_inv hinv a [] la (st.breaks ++ [st.K.length])
  have hc := fromNodesLoop_spec _ nks _ r hinv1 hn h
  have hl := hc.labels
  rw [appendNode_labels hinv] at hl
  refine ⟨getD_of_prefix_concat hc.K _, mem_of_prefix_concat hc.breaks, mem_of_prefix_concat hl, ?_⟩
  rintro c lc rest' rfl
  obtain ⟨f1, f2⟩ := hc.next_node c lc _ rfl
  have hlen : (appendNode st a [] la (st.breaks ++ [st.K.length])).K.length = st.K.length + 1 := List.length_append
  rw [← hlen]
  exact ⟨getD_of_prefix_concat f1 _, mem_of_prefix_concat f2⟩

/-! ## `Path.get_refined` -/

/-- refined index of the original point `t`:  Σ_{u<t} (1 if `u` is a break, else `factor`) -/
def phi (P : PathM) (factor t : Nat) : Nat := phiFrom P factor 0 t

/-- T4a (original points are kept).  The original point `t` is found at refined index `phi t`. -/
theorem refine_keeps_points (P : PathM) (factor : Nat) (hf : 1 ≤ factor) (t : Nat) (ht : t < P.K.length) :
    (refine P factor).K.getD (phi P factor t) (0, 0, 0) = P.K.getD t (0, 0, 0) := by
  rw [refine_K]
  exact refPts_point P hf P.K 0 t ht _

/-- T4b.  Labels and breaks are carried to `phi t`; nothing else is marked. -/
theorem refine_labels_breaks (P : PathM) (factor : Nat) (hf : 1 ≤ factor) :
    (∀ k l, (k, l) ∈ (refine P factor).labels ↔ ∃ t, t < P.K.length ∧ k = phi P factor t ∧ dictGet P.labels t = some l) ∧
    (∀ k, k ∈ (refine P factor).breaks ↔ ∃ t, t < P.K.length ∧ k = phi P factor t ∧ P.breaks.contains t = true) := by
  obtain ⟨h1, h2⟩ := refineGo_marks P hf P.K 0 PathM.empty (fun _ hp => nomatch hp)
  unfold refine
  rw [h1, h2]
  constructor
  · intro k l
    simp only [PathM.empty, List.length_nil, List.nil_append, mem_marks, zero_add, eq_comm,
      Option.some_eq_map_iff, Prod.mk.injEq, and_comm, ↓existsAndEq, true_and, phi]
  · intro k
    simp only [PathM.empty, List.contains_eq_mem, eq_comm, true_eq_decide_iff, List.length_nil, List.nil_append,
      mem_marks, zero_add, Option.some_eq_ite_none_right, Option.some.injEq, phi, and_comm]

/-- T4c.  Uniform subdivision between consecutive original points not separated by a break. -/
theorem refine_subdivides (P : PathM) (factor : Nat) (hf : 1 ≤ factor) (t j : Nat) (ht : t + 1 < P.K.length)
    (hnb : P.breaks.contains t = false) (hj : j < factor) :
    (refine P factor).K.getD (phi P factor t + j) (0, 0, 0)
      = lerp (P.K.getD t (0, 0, 0)) (P.K.getD (t + 1) (0, 0, 0)) j factor := by
  rw [refine_K]
  exact refPts_between P hf P.K 0 t j ht (by rwa [Nat.zero_add]) hj

/-! ## `Path.getKline` -/

/-- T5.  One entry per point, starts at 0, never decreases, does not advance across a break. -/
theorem kline_monotone (d : List Rat) (breaks : List Nat) (thresh : Option Rat) (hd : ∀ x ∈ d, 0 ≤ x) :
    (kline d breaks thresh).length = d.length + 1 ∧ (kline d breaks thresh).head? = some 0 ∧
      (kline d breaks thresh).Pairwise (· ≤ ·) ∧
      ∀ i ∈ breaks, i < d.length → (kline d breaks thresh).getD (i + 1) 0 = (kline d breaks thresh).getD i 0 := by
  unfold kline
  refine ⟨?_, rfl, ?_, ?_⟩
  · rw [List.length_cons, cumsumFrom_length, klineSteps_length]
  · exact cumsumFrom_sorted _ 0 (klineSteps_nonneg d breaks thresh hd)
  · intro i hi hlt
    rw [cumsumFrom_getD_succ _ 0 i (by rw [klineSteps_length]; exact hlt), klineSteps_break d breaks thresh i hi]
    ring

/-- T5' (the path coordinate is the ARC LENGTH).  Entry `i` is the sum of the first `i` step lengths, those at breaks
    (and above `break_thresh`) replaced by 0. -/
theorem kline_arc_length (d : List Rat) (breaks : List Nat) (thresh : Option Rat) (i : Nat) (hi : i ≤ d.length) :
    (kline d breaks thresh).getD i 0 = ((klineSteps d breaks thresh).take i).sum := by
  unfold kline
  rw [cumsumFrom_getD _ 0 i (by rw [klineSteps_length]; exact hi)]
  ring

theorem kline_arc_length_plain (d : List Rat) (i : Nat) (hi : i ≤ d.length) :
    (kline d [] none).getD i 0 = (d.take i).sum := by
  rw [kline_arc_length d [] none i hi]
  congr 2
  unfold klineSteps
  simp

/-- the chord-length rule (NOT what the code does): the coordinate of a point is the straight-line distance from
    the start of the path.  One-dimensional Cartesian positions suffice for the counterexample. -/
def chordLine (xs : List Rat) : List Rat := xs.map (fun x => absR (x - xs.headD 0))

/-- Cartesian step lengths of one-dimensional positions -/
def steps1 : List Rat → List Rat
  | a :: b :: l => absR (b - a) :: steps1 (b :: l)
  | _ => []

/-- on the path 0 → 1 → 0 the arc length is [0, 1, 2], the straight-line distance from the start [0, 1, 0]: it
    decreases, so it is not a path coordinate (the behaviour of the seeded change T-C29 at an unlabelled corner). -/
theorem chord_rule_counterexample :
    kline (steps1 [0, 1, 0]) [] none = [0, 1, 2] ∧ chordLine [0, 1, 0] = [0, 1, 0] ∧
      ¬ (chordLine [0, 1, 0]).Pairwise (· ≤ ·) := by
  decide +kernel

/-! ## `Path.get_K_list` -/

/-- T6.  For every batch size `k_batch ≥ 1` the batches, concatenated in order, are the k-list; no batch is empty
    and none exceeds `k_batch`. -/
theorem chunks_partition {α} (k : Nat) (hk : 0 < k) (l : List α) :
    (chunks k l).flatten = l ∧ ∀ c ∈ chunks k l, c ≠ [] ∧ c.length ≤ k :=
  ⟨chunksAux_flatten k hk l.length l (le_refl _), chunksAux_sizes k hk l.length l⟩

/-! ## `TABresult.self_to_path` -/

/-- T7a (soundness).  When the reordering succeeds, the k-point assigned to a path point equals it modulo a reciprocal
    lattice vector, whatever the order of the computed k-points. -/
theorem selfToPath_sound (kres kpath : List Q3) (m : List Nat) (h : selfToPath kres kpath = some m) :
    m.length = kpath.length ∧
      ∀ j p, kpath[j]? = some p → Congr (kres.getD (m.getD j 0) (0, 0, 0)) p := by
  obtain ⟨rfl, hc⟩ := (selfToPath_eq_some_iff kres kpath m).1 h
  refine ⟨List.length_map _, fun j p hj => ?_⟩
  rw [pathMapping_getD kres kpath j p hj]
  exact hc p (List.mem_of_getElem? hj)

/-- T7b (completeness, first match).  If every path point has a congruent partner among the computed k-points, the
    reordering succeeds and picks the FIRST such partner. -/
theorem selfToPath_complete (kres kpath : List Q3)
    (hall : ∀ p ∈ kpath, ∃ i, i < kres.length ∧ Congr (kres.getD i (0, 0, 0)) p) :
    ∃ m, selfToPath kres kpath = some m ∧
      ∀ j p, kpath[j]? = some p → m.getD j 0 < kres.length ∧
        ∀ i, i < m.getD j 0 → ¬ Congr (kres.getD i (0, 0, 0)) p := by
  have key := fun p (hp : p ∈ kpath) => (hall p hp).elim fun i0 h => argmin_pdist2 kres p i0 h.1 h.2
  refine ⟨pathMapping kres kpath, (selfToPath_eq_some_iff _ _ _).2 ⟨rfl, fun p hp => (key p hp).2.1⟩, ?_⟩
  intro j p hj
  rw [pathMapping_getD kres kpath j p hj]
  exact ⟨(key p (List.mem_of_getElem? hj)).1, (key p (List.mem_of_getElem? hj)).2.2⟩

/-! ## component extraction: `KBandResult.get_component`, `TABresult.get_data` -/

/-- T8a.  `get_component(data, component=(a, b, …))` is the entry `data[..., a, b, …]`, for any rank: the tuple is read in
    axis order although the loop peels the last axis first. -/
theorem getComponent_entry (T : Tensor) (comp idx : List Nat) : getComponent T comp idx = T (idx ++ comp) := by
  rw [getComponent, foldl_peel, List.reverse_reverse]

theorem getComponent_rank2 (T : Tensor) (a b : Nat) : getComponent T [a, b] [] = T [a, b] :=
  getComponent_entry T [a, b] []

/-- T8b.  The forward loop of the seeded change W-C29 returns the entry of the REVERSED tuple (the transposed
    element) … -/
theorem getComponentFwd_entry (T : Tensor) (comp idx : List Nat) :
    getComponentFwd T comp idx = T (idx ++ comp.reverse) := foldl_peel T comp idx

/-- … so it agrees with the code on every tensor that is symmetric under reversal of its indices (energies,
    vectors, inverse masses) … -/
theorem getComponentFwd_agrees_on_symmetric (T : Tensor) (hsym : ∀ idx, T idx.reverse = T idx) (comp : List Nat) :
    getComponentFwd T comp [] = getComponent T comp [] := by
  rw [getComponentFwd_entry, getComponent_entry]
  simpa using hsym comp

/-- … and differs on a non-symmetric rank-2 tensor (`T[a][b] = 3a + b`, like `∂_b Ω_a`): component (0,1) is 1, the
    forward loop returns `T[1][0] = 3`. -/
theorem getComponentFwd_counterexample :
    getComponent (tensorOfFlat [0, 1, 2, 3, 4, 5, 6, 7, 8]) [0, 1] [] = 1 ∧
      getComponentFwd (tensorOfFlat [0, 1, 2, 3, 4, 5, 6, 7, 8]) [0, 1] [] = 3 := by
  decide +kernel

/-- T8c (path level).  For `V` periodic in `k` and computed at `kres` in any order: when `self_to_path` succeeds,
    `get_data(component)` holds at every path point the requested entry of the tensor at that point. -/
theorem getDataPath_pointwise (V : Q3 → Tensor) (hper : ∀ k p, Congr k p → V k = V p)
    (kres kpath : List Q3) (m : List Nat) (h : selfToPath kres kpath = some m) (comp : List Nat)
    (j : Nat) (p : Q3) (hj : kpath[j]? = some p) :
    (getDataPath V kres m comp).getD j 0 = V p comp := by
  obtain ⟨rfl, hc⟩ := (selfToPath_eq_some_iff kres kpath m).1 h
  unfold getDataPath toPath pathMapping
  rw [List.getD_eq_getElem?_getD, List.getElem?_map, List.getElem?_map, List.getElem?_map, hj]
  simp only [Option.map_some, Option.getD_some]
  rw [getD_map_default, hper _ _ (hc p (List.mem_of_getElem? hj)), getComponent_entry]
  rfl

/-! ## non-vacuity and concrete instances -/

/-- a rank-3 tensor, a path visited out of order -/
example : getComponent (tensorOfFlat ((List.range 27).map (fun n => (n : Rat)))) [2, 0, 1] [] = 19 := by
  decide +kernel
example : getDataPath (fun k => fun idx => k.1 + (idx.foldl (fun a i => a * 3 + i) 0 : Nat))
    [(1/2, 0, 0), (0, 0, 0), (1/4, 0, 0)] [1, 2, 0] [1, 2] = [5, 1/4 + 5, 1/2 + 5] := by decide +kernel

/-- Γ –4– X | M –3– Z : two segments separated by a break (labels 1..4) -/
example : fromNodes [some ((0, 0, 0), 1), some ((1/2, 0, 0), 2), none, some ((1/2, 1/2, 0), 3), some ((0, 0, 1/2), 4)]
    [4, 3] = some ⟨[(0, 0, 0), (1/6, 0, 0), (1/3, 0, 0), (1/2, 0, 0), (1/2, 1/2, 0), (1/4, 1/4, 1/4), (0, 0, 1/2)],
      [(0, 1), (3, 2), (4, 3), (6, 4)], [3]⟩ := by decide +kernel

example : refine ⟨[(0, 0, 0), (1/2, 0, 0), (1/2, 1/2, 0), (0, 0, 1/2)], [(0, 1), (1, 2), (2, 3), (3, 4)], [1]⟩ 2 =
    ⟨[(0, 0, 0), (1/4, 0, 0), (1/2, 0, 0), (1/2, 1/2, 0), (1/4, 1/4, 1/4), (0, 0, 1/2)],
      [(0, 1), (2, 2), (3, 3), (5, 4)], [2]⟩ := by decide +kernel

example : kline [1, 2, 5, 1/2] [2] none = [0, 1, 3, 3, 7/2] := by decide +kernel
example : chunks 3 [0, 1, 2, 3, 4, 5, 6, 7] = [[0, 1, 2], [3, 4, 5], [6, 7]] := by decide +kernel
/-- results computed in the order 2,0,1 (stored modulo 1) are mapped back to path order; the path visits Γ twice -/
example : selfToPath [(1/2, 0, 0), (0, 0, 0), (1/4, 0, 0)] [(0, 0, 0), (1/4, 0, 0), (-1/2, 0, 0), (1, 0, 0)]
    = some [1, 2, 0, 1] := by decide +kernel
/-- a missing k-point is detected -/
example : selfToPath [(1/2, 0, 0), (0, 0, 0)] [(0, 0, 0), (1/4, 0, 0)] = none := by decide +kernel
/-- `None` as the last node is an error in the code -/
example : fromNodes [some ((0, 0, 0), 1), none] [2] = none := by decide +kernel

end WB.C29
