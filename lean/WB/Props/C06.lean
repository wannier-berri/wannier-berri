/-
  C06 — K-point weights partition the Brillouin zone for every grid and history: property theorems.
-/
import WB.Lemmas.C06Sum
import WB.Lemmas.C06Cell
import WB.Lemmas.C06Tetra
import WB.Lemmas.C06Orbit
import WB.Lemmas.C06Bridge
import WB.Lemmas.C06Excl
import WB.Lemmas.C06TetTile

namespace WB.C06

/-! ## `Grid.get_K_list`: weights are non-negative and sum to one, for ANY list of symmetry operations
    (group or not), any grid `div` with positive entries, with and without symmetry reduction -/

theorem getKList_total (syms : List Sym) (div : Idx) (useSym : Bool)
    (h1 : 0 < div.1) (h2 : 0 < div.2.1) (h3 : 0 < div.2.2) :
    totalW (getKList syms div useSym) = 1 ∧ ∀ k ∈ getKList syms div useSym, 0 ≤ k.factor := by
  refine ⟨by rw [getKList_total_eq]; exact finalGrid_total syms div useSym h1 h2 h3, ?_⟩
  intro k hk
  unfold getKList at hk
  obtain ⟨e, he, hk⟩ := List.mem_filterMap.mp hk
  have := finalGrid_nonneg syms div useSym e he
  cases ho : e.2 with
  | none => rw [ho] at hk; simp at hk
  | some f =>
    rw [ho] at hk this
    simp only [Option.map_some, Option.some.injEq] at hk
    rw [← hk]; simpa using this

/-- without symmetry every grid point is kept, with weight `1/N` -/
theorem getKList_nosym (syms : List Sym) (div : Idx) :
    getKList syms div false =
      (flatOrder div).map fun p =>
        { K := gridK div p, dK := gridDK div, factor := 1 / ((div.1 * div.2.1 * div.2.2 : Nat) : Rat), level := 0 } :=
  getKList_false syms div

/-! ## Call histories on ONE grid object: the answer to `get_K_list(use_symmetry)` is a function of
    (grid, group, use_symmetry) only.  For every sequence of calls the object is unchanged and call number `i` returns
    `getKList syms div calls[i]`: weights ≥ 0 with sum 1, and all grid points with weight 1/N when `use_symmetry = False`,
    irrespective of what was asked before (a cache that remembers the first call's reduction violates this). -/

theorem getKList_call_history (g : GridObj) (calls : List Bool)
    (h1 : 0 < g.div.1) (h2 : 0 < g.div.2.1) (h3 : 0 < g.div.2.2) :
    (gridCalls g calls).1 = g ∧
    (gridCalls g calls).2 = calls.map (getKList g.syms g.div) ∧
    (∀ l ∈ (gridCalls g calls).2, totalW l = 1 ∧ ∀ k ∈ l, 0 ≤ k.factor) ∧
    (∀ i : Nat, calls[i]? = some false → (gridCalls g calls).2[i]? = some
      ((flatOrder g.div).map fun p =>
        ({ K := gridK g.div p, dK := gridDK g.div,
           factor := 1 / ((g.div.1 * g.div.2.1 * g.div.2.2 : Nat) : Rat), level := 0 } : KPoint))) := by
  obtain ⟨a, b⟩ := gridCalls_spec g calls
  refine ⟨a, b, ?_, ?_⟩
  · intro l hl
    rw [b] at hl
    obtain ⟨us, _, rfl⟩ := List.mem_map.mp hl
    exact getKList_total g.syms g.div us h1 h2 h3
  · intro i hi
    rw [b, List.getElem?_map, hi, Option.map_some, getKList_nosym]

/-- the group 4/m (four rotations about z, each also combined with inversion) -/
def exampleSyms : List Sym :=
  [⟨1, 0, 0, 0, 1, 0, 0, 0, 1, false, false⟩, ⟨0, 1, 0, -1, 0, 0, 0, 0, 1, false, false⟩,
   ⟨-1, 0, 0, 0, -1, 0, 0, 0, 1, false, false⟩, ⟨0, -1, 0, 1, 0, 0, 0, 0, 1, false, false⟩,
   ⟨1, 0, 0, 0, 1, 0, 0, 0, 1, true, false⟩, ⟨0, 1, 0, -1, 0, 0, 0, 0, 1, true, false⟩,
   ⟨-1, 0, 0, 0, -1, 0, 0, 0, 1, true, false⟩, ⟨0, -1, 0, 1, 0, 0, 0, 0, 1, true, false⟩]

/-- symmetric call, then the full list, then the symmetric one again on the same object -/
example : (gridCalls ⟨exampleSyms, (2, 2, 2)⟩ [true, false, true]).2.map List.length = [6, 8, 6] := by decide +kernel

/-! ## Orbit cover.  Hypotheses (`OrbitHyp`, the "group hypotheses" at the level where the loop uses them):
    on the grid, `q ∈ star(p)` is an equivalence relation that stays on the grid, and `star(p)` lists every point of
    the orbit once.  `orbitCheck` is an executable test of exactly these facts; the harness runs it on the integer
    matrices read from the code's own `PointGroup` for every group/grid it uses.
    Conclusion: (1) a retained point carries `|orbit| / N`; (2) every grid point lies in the star of exactly one
    retained point; (3) `get_K_list` returns exactly the retained points (as K-points with that weight). -/

theorem getKList_orbit_cover (syms : List Sym) (div : Idx) (hS : OrbitHyp div (starIdx syms div)) :
    (∀ r f, (r, f) ∈ kept syms div true →
        inRange div r ∧ f = ((starIdx syms div r).length : Rat) / ((div.1 * div.2.1 * div.2.2 : Nat) : Rat)) ∧
    (∀ q, inRange div q → ∃ r f, (r, f) ∈ kept syms div true ∧ q ∈ starIdx syms div r ∧
        ∀ r' f', (r', f') ∈ kept syms div true → q ∈ starIdx syms div r' → r' = r) ∧
    getKList syms div true =
      (kept syms div true).map fun rf => { K := gridK div rf.1, dK := gridDK div, factor := rf.2, level := 0 } :=
  ⟨(kept_orbit_cover syms div hS).1, (kept_orbit_cover syms div hS).2, getKList_eq_kept syms div true⟩

/-- the executable check is sufficient for the hypotheses -/
theorem orbitCheck_sound (syms : List Sym) (div : Idx) (h : orbitCheck div (starIdx syms div) = true) :
    OrbitHyp div (starIdx syms div) := by
  generalize starIdx syms div = S at h ⊢
  unfold orbitCheck at h
  rw [List.all_eq_true] at h
  have hp : ∀ p, inRange div p →
      ((∀ q ∈ S p, inRange div q) ∧ p ∈ S p ∧ (S p).Nodup ∧
        ∀ q ∈ S p, p ∈ S q ∧ ∀ r ∈ S q, r ∈ S p) := by
    intro p hp
    have := h p ((mem_flatOrder div p).mpr hp)
    simp only [Bool.and_eq_true, List.all_eq_true, List.contains_iff_mem, nodupB_iff, inRangeB_iff] at this
    obtain ⟨⟨⟨a, b⟩, c⟩, d⟩ := this
    exact ⟨a, b, c, d⟩
  exact {
    range := fun p h => (hp p h).1
    refl := fun p h => (hp p h).2.1
    symm := fun p q h _ hq => ((hp p h).2.2.2 q hq).1
    trans := fun p q r h _ _ hq hr => ((hp p h).2.2.2 q hq).2 r hr
    nodup := fun p h => (hp p h).2.2.1 }

/-- the hypothesis is not automatic: a list that is not a group (identity and one 4-fold rotation only) fails the check -/
theorem orbit_hyp_needed :
    orbitCheck (4, 4, 1) (starIdx [⟨1, 0, 0, 0, 1, 0, 0, 0, 1, false, false⟩, ⟨0, 1, 0, -1, 0, 0, 0, 0, 1, false, false⟩] (4, 4, 1)) = false := by
  decide +kernel

/-! ## Orbit cover from GROUP hypotheses.  `GroupHyp syms div`: the list contains an operation acting as the
    identity, for every operation one acting as its inverse, for every two one acting as their product (all as maps on
    reduced vectors), and the grid passes the symmetric-grid test (`PointGroup.symmetric_grid`).  From these alone the star
    relation on grid points is reflexive, symmetric, transitive, stays on the grid and `star` lists every orbit point
    once (`orbitHyp_of_groupHyp`), hence the orbit-cover conclusion.  `groupCheck` is the executable form of the three
    group conditions (run on the code's own point groups by the harness); `orbitCheck_sound` is the direct
    run-time check of the derived facts. -/

/-- the group hypotheses imply the hypotheses of the orbit theorem -/
theorem orbitHyp_of_groupHyp (syms : List Sym) (div : Idx) (hG : GroupHyp syms div) :
    OrbitHyp div (starIdx syms div) := by
  have hon := symmetricGrid_onGrid syms div hG.pos hG.grid
  refine { range := ?_, refl := ?_, symm := ?_, trans := ?_, nodup := ?_ }
  · intro p _ q hq
    unfold starIdx at hq
    obtain ⟨v, _, rfl⟩ := List.mem_map.mp hq
    exact toIdx_inRange div v hG.pos.1 hG.pos.2.1 hG.pos.2.2
  · intro p hp
    obtain ⟨e, he, hid⟩ := hG.one
    exact (mem_starIdx syms div hG p p).mpr ⟨e, he, by rw [hid, toIdx_gridK div p hp]⟩
  · intro p q hp _ hq
    obtain ⟨s, hs, rfl⟩ := (mem_starIdx syms div hG p _).mp hq
    obtain ⟨t, ht, hts⟩ := hG.inv s hs
    refine (mem_starIdx syms div hG _ p).mpr ⟨t, ht, ?_⟩
    rw [toIdx_apply_rep syms div hG s t hs ht p, hts, toIdx_gridK div p hp]
  · intro p q r _ _ _ hq hr
    obtain ⟨s, hs, rfl⟩ := (mem_starIdx syms div hG p _).mp hq
    obtain ⟨t, ht, rfl⟩ := (mem_starIdx syms div hG _ _).mp hr
    obtain ⟨u, hu, hu'⟩ := hG.mul s hs t ht
    refine (mem_starIdx syms div hG p _).mpr ⟨u, hu, ?_⟩
    rw [hu']
    exact toIdx_apply_rep syms div hG s t hs ht p
  · intro p _
    unfold starIdx star
    obtain ⟨hpw, _⟩ := dedupAux_pairwise (syms.map fun s => s.apply (gridK div p)) []
    have hmem : ∀ v ∈ dedupAux [] (syms.map fun s => s.apply (gridK div p)), OnGrid div v := by
      intro v hv
      obtain ⟨s, hs, rfl⟩ := List.mem_map.mp (mem_dedupAux _ _ v hv)
      exact hon s hs p
    rw [List.Nodup, List.pairwise_map]
    refine List.Pairwise.imp_of_mem ?_ hpw
    intro a b ha hb hab heq
    exact hab (toIdx_inj div hG.pos (hmem a ha) (hmem b hb) heq)

theorem getKList_orbit_cover_of_group (syms : List Sym) (div : Idx) (hG : GroupHyp syms div) :
    (∀ r f, (r, f) ∈ kept syms div true →
        inRange div r ∧ f = ((starIdx syms div r).length : Rat) / ((div.1 * div.2.1 * div.2.2 : Nat) : Rat)) ∧
    (∀ q, inRange div q → ∃ r f, (r, f) ∈ kept syms div true ∧ q ∈ starIdx syms div r ∧
        ∀ r' f', (r', f') ∈ kept syms div true → q ∈ starIdx syms div r' → r' = r) ∧
    getKList syms div true =
      (kept syms div true).map fun rf => { K := gridK div rf.1, dK := gridDK div, factor := rf.2, level := 0 } :=
  getKList_orbit_cover syms div (orbitHyp_of_groupHyp syms div hG)

/-- the executable group test (identity, inverses, products as signed matrices) + the symmetric-grid test give the
    group hypotheses -/
theorem groupCheck_sound (syms : List Sym) (div : Idx) (hd : 0 < div.1 ∧ 0 < div.2.1 ∧ 0 < div.2.2)
    (hg : groupCheck syms = true) (hs : symmetricGrid syms div = true) : GroupHyp syms div := by
  unfold groupCheck at hg
  simp only [Bool.and_eq_true, List.any_eq_true, List.all_eq_true] at hg
  obtain ⟨⟨⟨e, he, hid⟩, hinv⟩, hmul⟩ := hg
  refine { pos := hd, one := ?_, inv := ?_, mul := ?_, grid := hs }
  · exact ⟨e, he, fun k => by rw [sameAct_apply e idSym hid, idSym_apply]⟩
  · intro s hs'
    obtain ⟨t, ht, h⟩ := hinv s hs'
    exact ⟨t, ht, fun k => by rw [← comp_apply, sameAct_apply _ idSym h, idSym_apply]⟩
  · intro s hs' t ht
    obtain ⟨u, hu, h⟩ := hmul s hs' t ht
    exact ⟨u, hu, fun k => by rw [sameAct_apply u _ h, comp_apply]⟩

/-- the group 4/m on the 4x4x2 grid satisfies the group hypotheses -/
example : GroupHyp exampleSyms (4, 4, 2) :=
  groupCheck_sound _ _ ⟨by norm_num, by norm_num, by norm_num⟩ (by decide +kernel) (by decide +kernel)

/-! ## `exclude_equiv_points` conserves the total weight: for ANY equivalence test, ANY grouping/ordering of
    the indices (the float pre-filter of the code) and any number of new points -/

theorem excludeEquiv_conserves (eqv : Nat → Nat → Bool) (groups : List (List Nat)) (l : List KPoint) (np : Nat) :
    totalW (excludeEquivWith eqv groups l np) = totalW l ∧
    ((∀ k ∈ l, 0 ≤ k.factor) → ∀ k ∈ excludeEquivWith eqv groups l np, 0 ≤ k.factor) := by
  refine ⟨?_, excludeEquivWith_nonneg eqv groups l np⟩
  unfold excludeEquivWith
  simp only
  rw [liveSum_filter, ← liveSum_init]
  exact List.foldlRecOn (motive := fun s => liveSum s = liveSum (l.map fun k => (k, false))) _ _ rfl
    fun s hs ij _ => (exclStep_liveSum eqv _ s ij).trans hs

/-! ## Full specification of `exclude_equiv_points` when the test is an equivalence relation on the indices
    (`EqvHyp`: reflexive, symmetric, transitive, old points pairwise inequivalent) and every equivalent pair is visited
    by the double loop (`hcov`; true for the single group of the model and for the code's distGamma groups as long as
    equivalent points share a group): the result consists exactly of the FIRST point of every class, in list order, each
    with the sum of the weights of its class; and - without any hypothesis - old points are never deleted or moved.
    (That `eqvTable (starTable syms l)`, the test `excludeEquiv` runs with, satisfies `EqvHyp` for a group is not proved;
    `single_group_covers` discharges `hcov` for the model's grouping.) -/

theorem excludeEquiv_spec (eqv : Nat → Nat → Bool) (groups : List (List Nat)) (l : List KPoint) (np : Nat)
    (H : EqvHyp eqv (l.length - np) l.length)
    (hcov : ∀ i j, i < j → j < l.length → eqv i j = true → (i, j) ∈ groupPairs groups) :
    excludeEquivWith eqv groups l np =
      ((List.range l.length).filter fun m => decide (isMin eqv m)).filterMap fun m =>
        (l[m]?).map fun k => { k with factor := classWeight eqv l m } := by
  unfold excludeEquivWith
  simp only
  have hL : ((groupPairs groups).foldl (exclStep eqv (l.length - np)) (l.map fun k => (k, false))).length = l.length :=
    (inv_fold eqv _ _ _ (groupPairs groups) _ (init_inv eqv _ l)).len
  rw [filter_by_index (fun e : KPoint × Bool => !e.2) (fun e => e.1) (fun m => decide (isMin eqv m))
    (fun m => (l[m]?).map fun k => { k with factor := classWeight eqv l m })]
  · rw [hL]
  · intro k hk
    rw [hL] at hk
    obtain ⟨hmin, hnot⟩ := final_state eqv l np (groupPairs groups) H hcov k hk
    by_cases hm : isMin eqv k
    · have e := hmin hm
      rw [List.getElem?_eq_getElem (by rw [hL]; exact hk)] at e
      simp only [Option.some.injEq] at e
      rw [e]
      refine ⟨by simp [hm], fun _ => ?_⟩
      rw [List.getElem?_eq_getElem hk]; rfl
    · have e := hnot hm
      unfold flagAt at e
      rw [List.getElem?_eq_getElem (by rw [hL]; exact hk)] at e
      simp only at e
      refine ⟨by simp [hm, e], fun h => ?_⟩
      simp [hm] at h

theorem excludeEquiv_keeps_old (eqv : Nat → Nat → Bool) (groups : List (List Nat)) (l : List KPoint) (np : Nat)
    (i : Nat) (hi : i < l.length - np) :
    ((excludeEquivWith eqv groups l np)[i]?).map kkey = (l[i]?).map kkey := by
  unfold excludeEquivWith
  simp only
  have hI := inv_fold eqv (l.length - np) l.length _ (groupPairs groups) _ (init_inv eqv (l.length - np) l)
  generalize (groupPairs groups).foldl (exclStep eqv (l.length - np)) (l.map fun k => (k, false)) = sf at hI
  have hflags : ∀ k, k < l.length - np → flagAt sf k = false := fun k hk =>
    Bool.eq_false_iff.mpr fun h => absurd (hI.excl k (by omega) h).1 (by omega)
  have hk := hI.keys i
  rw [List.getElem?_map, Option.map_map] at hk
  rw [filter_unflagged_prefix sf i (fun j hj => hflags j (by omega)), Option.map_map]
  exact hk

/-- the single group in index order used by the model visits every pair -/
theorem single_group_covers (n : Nat) (i j : Nat) (hij : i < j) (hj : j < n) : (i, j) ∈ groupPairs [List.range n] := by
  unfold groupPairs
  simp only [List.flatMap_cons, List.flatMap_nil, List.append_nil, List.mem_flatMap, List.mem_map, List.mem_range,
    Prod.mk.injEq]
  exact ⟨i, by omega, j, hj, rfl, rfl⟩

/-- non-vacuity: "same parity" on 5 points of which the first two are old -/
example : EqvHyp (fun i j => i % 2 == j % 2) 2 5 :=
  { refl := fun i _ => by simp
    symm := fun i j _ _ h => by simp only [beq_iff_eq] at h ⊢; omega
    trans := fun i j k _ _ _ h h' => by simp only [beq_iff_eq] at h h' ⊢; omega
    old := fun i j hi hj hne => by simp only [beq_eq_false_iff_ne, ne_eq]; omega }

/-! ## The pre-filter key `distGamma` of `exclude_equiv_points` (distance from `K % 1` to the nearest lattice
    point, searched among the corners `[-n, n]^3`; the code uses n = 3).  The key equals the true minimal distance as
    soon as the box contains a minimiser, so two symmetry-equivalent points (same true distance) get the same key and
    fall into the same group - the hypothesis `hcov` of `excludeEquiv_spec`.  For a sheared (non-reduced) basis the box
    `±1` misses the minimiser: two equivalent points get different keys and would never be compared, `±3` does not.
    (This part of the model - `distGammaSq` and its helpers, defined in Lemmas/C06Excl - is tied to the code by the
    oracle on sheared lattices, not by a protocol line.) -/

theorem distGamma_is_true_distance (g : Gram) (n : Nat) (k : V3) (m : Rat)
    (hlow : ∀ c ∈ boxCorners n, m ≤ g.sq ((fracV k).sub c))
    (hatt : ∃ c ∈ boxCorners n, g.sq ((fracV k).sub c) = m) : distGammaSq g n k = m := by
  unfold distGammaSq
  obtain ⟨c, hc, e⟩ := hatt
  have hm : m ∈ (boxCorners n).map fun c => g.sq ((fracV k).sub c) := List.mem_map.mpr ⟨c, hc, e⟩
  have h1 := minList_le _ m hm
  have hne : ((boxCorners n).map fun c => g.sq ((fracV k).sub c)) ≠ [] := List.ne_nil_of_mem hm
  obtain ⟨c', hc', e'⟩ := List.mem_map.mp (minList_mem _ hne)
  have h2 := hlow c' hc'
  rw [e'] at h2
  linarith

/-- two points with the same true distance `m` whose minimisers lie in the box get the same key -/
theorem distGamma_equal_for_equivalent (g : Gram) (n : Nat) (k k' : V3) (m : Rat)
    (h1 : ∀ c ∈ boxCorners n, m ≤ g.sq ((fracV k).sub c)) (a1 : ∃ c ∈ boxCorners n, g.sq ((fracV k).sub c) = m)
    (h2 : ∀ c ∈ boxCorners n, m ≤ g.sq ((fracV k').sub c)) (a2 : ∃ c ∈ boxCorners n, g.sq ((fracV k').sub c) = m) :
    distGammaSq g n k = distGammaSq g n k' := by
  rw [distGamma_is_true_distance g n k m h1 a1, distGamma_is_true_distance g n k' m h2 a2]

/-- sheared basis b3 = 2 b1 + z (Gram 1,0,2,1,0,5): K = (1/8, 0, 5/8) and its image -K under a two-fold axis -/
theorem narrow_box_splits_equivalent_points :
    let g : Gram := ⟨1, 0, 2, 1, 0, 5⟩
    distGammaSq g 1 ⟨1/8, 0, 5/8⟩ ≠ distGammaSq g 1 ⟨-1/8, 0, -5/8⟩ ∧
    distGammaSq g 3 ⟨1/8, 0, 5/8⟩ = distGammaSq g 3 ⟨-1/8, 0, -5/8⟩ := by
  -- the form of this basis, with the square completed: fewer operations per corner
  have hg : Gram.sq ⟨1, 0, 2, 1, 0, 5⟩ = fun e => (e.x + 2 * e.z) * (e.x + 2 * e.z) + e.y * e.y + e.z * e.z :=
    funext fun e => by simp only [Gram.sq]; ring
  simp only [distGammaSq, hg]
  decide +kernel

example : distGammaSq ⟨1, 0, 0, 1, 0, 1⟩ 1 ⟨1/4, 0, 0⟩ = 1/16 :=
  distGamma_is_true_distance _ _ _ _ (by decide +kernel) (by decide +kernel)

/-! ## `divide`: the children tile the parent's cell and carry the parent's weight -/

/-- the children are exactly `child kp n c` for the index triples `c` below `n` -/
theorem mem_children (kp : KPoint) (n : Idx) (k : KPoint) :
    k ∈ children kp n ↔ ∃ c : Idx, (c.1 < n.1 ∧ c.2.1 < n.2.1 ∧ c.2.2 < n.2.2) ∧ k = child kp n c := by
  unfold children
  rw [List.mem_map]
  constructor
  · rintro ⟨c, hc, rfl⟩; exact ⟨c, (mem_flatOrder n c).mp hc, rfl⟩
  · rintro ⟨c, hc, rfl⟩; exact ⟨c, (mem_flatOrder n c).mpr hc, rfl⟩

/-- for every `ndiv > 0` and every cell of positive size: a point lies in the parent's half-open cell
    iff it lies in the cell of some child, and that child is unique. -/
theorem divide_tiles (kp : KPoint) (n : Idx) (hn : 0 < n.1 ∧ 0 < n.2.1 ∧ 0 < n.2.2)
    (hd : 0 < kp.dK.x ∧ 0 < kp.dK.y ∧ 0 < kp.dK.z) (p : V3) :
    (inCell kp p ↔ ∃ c : Idx, (c.1 < n.1 ∧ c.2.1 < n.2.1 ∧ c.2.2 < n.2.2) ∧ inCell (child kp n c) p) ∧
    (∀ c c' : Idx, inCell (child kp n c) p → inCell (child kp n c') p → c = c') := by
  constructor
  · constructor
    · intro h
      obtain ⟨x, hx, hx'⟩ := cell1_cover kp.K.x kp.dK.x p.x n.1 hn.1 hd.1 h.1
      obtain ⟨y, hy, hy'⟩ := cell1_cover kp.K.y kp.dK.y p.y n.2.1 hn.2.1 hd.2.1 h.2.1
      obtain ⟨z, hz, hz'⟩ := cell1_cover kp.K.z kp.dK.z p.z n.2.2 hn.2.2 hd.2.2 h.2.2
      exact ⟨(x, y, z), ⟨hx, hy, hz⟩, (inCell_child kp n (x, y, z) p).mpr ⟨hx', hy', hz'⟩⟩
    · rintro ⟨c, hc, h⟩
      obtain ⟨a, b, d⟩ := (inCell_child kp n c p).mp h
      exact ⟨cell1_inside _ _ _ _ _ hn.1 hd.1 hc.1 a, cell1_inside _ _ _ _ _ hn.2.1 hd.2.1 hc.2.1 b,
        cell1_inside _ _ _ _ _ hn.2.2 hd.2.2 hc.2.2 d⟩
  · intro c c' h h'
    obtain ⟨a, b, d⟩ := (inCell_child kp n c p).mp h
    obtain ⟨a', b', d'⟩ := (inCell_child kp n c' p).mp h'
    have e1 := cell1_unique _ _ _ _ _ _ hn.1 hd.1 a a'
    have e2 := cell1_unique _ _ _ _ _ _ hn.2.1 hd.2.1 b b'
    have e3 := cell1_unique _ _ _ _ _ _ hn.2.2 hd.2.2 d d'
    exact Prod.ext e1 (Prod.ext e2 e3)

/-- the children have cells `1/ndiv` of the parent's and are one level deeper -/
theorem child_shape (kp : KPoint) (n c : Idx) :
    (child kp n c).dK = ⟨kp.dK.x / n.1, kp.dK.y / n.2.1, kp.dK.z / n.2.2⟩ ∧ (child kp n c).level = kp.level + 1 ∧
    (child kp n c).factor = kp.factor / ((n.1 * n.2.1 * n.2.2 : Nat) : Rat) := ⟨rfl, rfl, rfl⟩

/-- `divide` (with the effective `ndiv`, non-periodic directions not divided, with or without merging of
    symmetry-equivalent children) returns points whose weights sum to the parent's weight -/
theorem divide_conserves (syms : List Sym) (useSym : Bool) (per : Bool × Bool × Bool) (kp : KPoint) (ndiv : Idx)
    (h1 : 0 < ndiv.1) (h2 : 0 < ndiv.2.1) (h3 : 0 < ndiv.2.2) :
    totalW (divide syms useSym per kp ndiv) = kp.factor := by
  obtain ⟨e1, e2, e3⟩ := effNdiv_pos ndiv per h1 h2 h3
  unfold divide
  simp only
  split
  · unfold excludeEquiv
    rw [(excludeEquiv_conserves _ _ _ _).1]
    exact children_total kp _ e1 e2 e3
  · exact children_total kp _ e1 e2 e3

/-- the divided point stays in the list with weight 0 (`K_list += K.divide(...)`): the list's total is kept -/
theorem refineOne_conserves (syms : List Sym) (useSym : Bool) (per : Bool × Bool × Bool) (ndiv : Idx)
    (l : List KPoint) (iK : Nat) (h1 : 0 < ndiv.1) (h2 : 0 < ndiv.2.1) (h3 : 0 < ndiv.2.2) :
    totalW (refineOne syms useSym per ndiv l iK) = totalW l ∧
    (∀ kp, l[iK]? = some kp →
      (refineOne syms useSym per ndiv l iK)[iK]? = some { kp with factor := 0 }) := by
  constructor
  · unfold refineOne
    split
    · rfl
    · rename_i kp hk
      obtain ⟨hi, e1⟩ := List.getElem?_eq_some_iff.mp hk
      rw [totalW_append, divide_conserves _ _ _ _ _ h1 h2 h3]
      unfold totalW
      rw [sum_map_set _ _ _ _ hi, e1]
      ring
  · intro kp hk
    obtain ⟨hi, _⟩ := List.getElem?_eq_some_iff.mp hk
    unfold refineOne
    rw [hk]
    simp only
    rw [List.getElem?_append_left (by simpa using hi)]
    simp [hi]

/-! ## Every refinement history keeps `Σ factor = 1` and `factor ≥ 0` -/

theorem refineStep_conserves (syms : List Sym) (useSym : Bool) (per : Bool × Bool × Bool) (l : List KPoint)
    (op : Idx × List Nat) (h1 : 0 < op.1.1) (h2 : 0 < op.1.2.1) (h3 : 0 < op.1.2.2) :
    totalW (refineStep syms useSym per l op) = totalW l := by
  have key : totalW (op.2.foldl (refineOne syms useSym per op.1) l) = totalW l :=
    List.foldlRecOn (motive := fun l' => totalW l' = totalW l) _ _ rfl fun l' hl i _ =>
      (refineOne_conserves _ _ _ _ _ _ h1 h2 h3).1.trans hl
  unfold refineStep
  simp only
  split
  · unfold excludeEquiv
    rw [(excludeEquiv_conserves _ _ _ _).1, key]
  · exact key

/-- for all symmetry lists, grids, periodicity masks, and all sequences of (refinement mesh, selected indices) -/
theorem history_invariant (syms : List Sym) (div : Idx) (useSym : Bool) (per : Bool × Bool × Bool)
    (ops : List (Idx × List Nat))
    (h1 : 0 < div.1) (h2 : 0 < div.2.1) (h3 : 0 < div.2.2)
    (hops : ∀ op ∈ ops, 0 < op.1.1 ∧ 0 < op.1.2.1 ∧ 0 < op.1.2.2) :
    totalW (runHistory syms div useSym per ops) = 1 ∧
    ∀ k ∈ runHistory syms div useSym per ops, 0 ≤ k.factor := by
  unfold runHistory
  refine List.foldlRecOn (motive := fun l : List KPoint => totalW l = 1 ∧ ∀ k ∈ l, 0 ≤ k.factor) _ _
    (getKList_total syms div useSym h1 h2 h3) fun l hl op hop => ?_
  obtain ⟨p1, p2, p3⟩ := hops op hop
  exact ⟨(refineStep_conserves syms useSym per l op p1 p2 p3).trans hl.1, refineStep_nonneg syms useSym per l op hl.2⟩

/-! ## Restart of run() from a stored iteration: the stored factor vector of that iteration (shorter than the
    stored K-list when later iterations created more points) is padded with zeros.  Then the weights of the restarted
    list are exactly the stored ones followed by zeros: every point created after that iteration is dead, positions,
    cells and levels are untouched, and the total is the stored total (= 1).  Without the padding the later points keep
    the weight they were pickled with and the total exceeds 1. -/

theorem restart_weights (l : List KPoint) (stored : List Rat) (h : stored.length ≤ l.length) :
    (restartWeights l stored).map KPoint.factor = stored ++ List.replicate (l.length - stored.length) 0 ∧
    totalW (restartWeights l stored) = stored.sum ∧
    (restartWeights l stored).map (fun k => (k.K, k.dK, k.level)) = l.map (fun k => (k.K, k.dK, k.level)) ∧
    ((∀ f ∈ stored, 0 ≤ f) → ∀ k ∈ restartWeights l stored, 0 ≤ k.factor) := by
  have e : (restartWeights l stored).map KPoint.factor = padFactors stored l.length :=
    setFactors_factors l _ (padFactors_length stored l.length h)
  refine ⟨e, ?_, setFactors_keys l _, ?_⟩
  · unfold totalW; rw [e, padFactors_sum]
  · intro hs k hk
    have : k.factor ∈ (restartWeights l stored).map KPoint.factor := List.mem_map.mpr ⟨k, hk, rfl⟩
    rw [e] at this
    unfold padFactors at this
    rcases List.mem_append.mp this with h1 | h1
    · exact hs _ h1
    · rw [(List.mem_replicate.mp h1).2]

/-- restarting from a stored factor vector with sum 1 (what `history_invariant` gives for every earlier state) gives
    total weight 1 again -/
theorem restart_total_one (l : List KPoint) (stored : List Rat) (h : stored.length ≤ l.length) (h1 : stored.sum = 1) :
    totalW (restartWeights l stored) = 1 := by
  rw [(restart_weights l stored h).2.1, h1]

/-- the counterexample without padding: one point of weight 1 was divided into two children (stored list: dead parent
    + two children of 1/2); restarting from the state before the division gives the parent its weight back - with the
    padding the children die (total 1), without it they keep 1/2 each (total 2) -/
theorem restart_without_padding_gains_weight :
    let k : Rat → KPoint := fun w => { K := ⟨0, 0, 0⟩, dK := ⟨1, 1, 1⟩, factor := w, level := 0 }
    totalW (restartWeights [k 0, k (1/2), k (1/2)] [1]) = 1 ∧
    totalW (restartWeightsNoPad [k 0, k (1/2), k (1/2)] [1]) = 2 := by
  decide +kernel

/-! ## Tetrahedral grids -/

/-- each piece of an edge split (any edge, any `ndiv > 0`) has `1/ndiv` of the volume and of the weight -/
theorem divideTet_volume (t : Tet) (e n : Nat) (refine : Bool) (hn : 0 < n) :
    (divideTet t e n refine).length = n ∧
    ∀ c ∈ divideTet t e n refine, c.volume = t.volume / n ∧ c.factor = t.factor / n :=
  ⟨divideTet_length t e n refine, fun c hc => divideTet_mem t e n refine c hc hn⟩

/-- the pieces keep the two vertices off the edge and put the other two on the edge at `i/ndiv`, `(i+1)/ndiv`
    (absolute positions: the re-centring in `KpointBZtetra.__init__` does not move anything) -/
theorem divideTet_vertices (t : Tet) (e n : Nat) (refine : Bool) (i : Nat) (hi : i < n) :
    ∃ c, (divideTet t e n refine)[i]? = some c ∧
      c.absVert 0 = t.absVert (edgeComp e).1 ∧ c.absVert 1 = t.absVert (edgeComp e).2 ∧
      c.absVert 2 = t.K.add ((t.vert (edgeEnds e).1).add
        (V3.smul (i : Rat) (V3.smul (1 / (n : Rat)) ((t.vert (edgeEnds e).2).sub (t.vert (edgeEnds e).1))))) ∧
      c.absVert 3 = t.K.add ((t.vert (edgeEnds e).1).add
        (V3.smul ((i : Rat) + 1) (V3.smul (1 / (n : Rat)) ((t.vert (edgeEnds e).2).sub (t.vert (edgeEnds e).1))))) := by
  unfold divideTet
  simp only [List.getElem?_map, List.getElem?_range hi, Option.map_some]
  refine ⟨_, rfl, ?_⟩
  exact mkTet_absVert ..

/-- the split loops (`split_tetra_volume`, `split_tetra_size`) keep total weight and total volume, whatever the
    break test, the selection, the edge choice and the number of passes -/
theorem splitLoop_conserves (stop : List Tet → Bool) (sel : Tet → Bool) (edge : Tet → Nat) (fuel : Nat) (l : List Tet) :
    tetTotalW (splitLoop stop sel edge fuel l) = tetTotalW l ∧
    tetTotalVol (splitLoop stop sel edge fuel l) = tetTotalVol l := by
  induction fuel generalizing l with
  | zero => exact ⟨rfl, rfl⟩
  | succ fuel ih =>
    unfold splitLoop
    split
    · exact ⟨rfl, rfl⟩
    · obtain ⟨a, b⟩ := ih (splitPass sel edge l)
      obtain ⟨c, d⟩ := splitPass_totals sel edge l
      exact ⟨a.trans c, b.trans d⟩

/-- the (repaired) break test `max <= threshold` holds exactly when no tetrahedron would be split, so a pass that is
    executed always splits something, and a pass that would split nothing is never executed -/
theorem split_stops_iff_nothing_to_split (f : Tet → Rat) (thr : Rat) (hthr : 0 ≤ thr) (l : List Tet) :
    decide (maxOf (l.map f) ≤ thr) = true ↔ ∀ t ∈ l, decide (f t > thr) = false := by
  simp only [stop_iff f thr hthr, decide_eq_false_iff_not, not_lt]

/-- the volume loop ends: when every starting volume is at most `2^n · vmax` (`vmax > 0`), `n + 1` passes
    suffice, after which every tetrahedron has volume `≤ vmax` (extra fuel changes nothing: the loop has stopped). -/
theorem splitVolume_terminates (g : Gram) (vmax : Rat) (hv : 0 < vmax) (n : Nat) (l : List Tet)
    (hl : ∀ t ∈ l, t.volume ≤ 2 ^ n * vmax) :
    ∀ t ∈ splitVolume g vmax (n + 1) l, t.volume ≤ vmax := by
  -- one pass halves every volume above the threshold
  have := splitLoop_done Tet.volume vmax hv (Tet.iMaxEdge g) 2 (by norm_num) 1 (fun B l hB c hc => by
    obtain ⟨t, ht, h | h⟩ := (mem_splitPass _ _ l c).mp hc
    · rw [(divideTet_mem t _ 2 false c h.2 (by norm_num)).1]
      exact le_max_of_le_right (div_le_div_of_nonneg_right (hB t ht) (by norm_num))
    · rw [h.2]; exact le_max_of_le_left (by simpa using h.1)) n l hl
  rwa [Nat.one_mul] at this

/-- the defect that was repaired: with the original break test `max < threshold` a list whose largest volume EQUALS
    the threshold is not accepted, although the pass selects nothing and returns the list unchanged - the `while True`
    loop of `split_tetra_volume` / `split_tetra_size` never ended (e.g. cubic a = 1.25, length = 10, NKFFT = 2) -/
theorem old_break_test_loops_on_tie (f : Tet → Rat) (thr : Rat) (hthr : 0 ≤ thr) (edge : Tet → Nat) (l : List Tet)
    (htie : maxOf (l.map f) = thr) :
    decide (maxOf (l.map f) < thr) = false ∧ splitPass (fun t => decide (f t > thr)) edge l = l := by
  refine ⟨by simp [htie], splitPass_none _ _ l ?_⟩
  exact (split_stops_iff_nothing_to_split f thr hthr l).mp (by simp [htie])

/-- the fuel of the model is no restriction: once the result passes the break test, any additional fuel returns the
    same list (`split_tetra_volume`, `split_tetra_size`, any break test / selection / edge choice) -/
theorem splitLoop_fuel_irrelevant (stop : List Tet → Bool) (sel : Tet → Bool) (edge : Tet → Nat) (a d : Nat)
    (l : List Tet) (h : stop (splitLoop stop sel edge a l) = true) :
    splitLoop stop sel edge (a + d) l = splitLoop stop sel edge a l := by
  rw [splitLoop_add]
  exact splitLoop_of_stop stop sel edge d _ h

/-- CONDITIONAL termination of `split_tetra_size`.  The hypothesis `hcontr` - `m` passes of the splitting rule bring
    every squared size down to a quarter of the previous bound or below the threshold - is a geometric property of
    longest-edge bisection that is NOT proved here (the unconditional statement remains open; the oracle checks
    termination on the real code under a time guard).  Given it, lists with squared sizes `≤ 4^n · thr` are finished
    after `m n + 1` passes and every squared size is `≤ thr`. -/
theorem splitSize_terminates_of_contraction (g : Gram) (thr : Rat) (hthr : 0 < thr) (m : Nat)
    (hcontr : ∀ (B : Rat) (l : List Tet), (∀ t ∈ l, t.sizeSq g ≤ B) →
      ∀ t ∈ (splitPass (fun t => decide (t.sizeSq g > thr)) (Tet.iMaxEdge g))^[m] l, t.sizeSq g ≤ max thr (B / 4))
    (n : Nat) (l : List Tet) (hl : ∀ t ∈ l, t.sizeSq g ≤ 4 ^ n * thr) :
    ∀ t ∈ splitSize g thr (m * n + 1) l, t.sizeSq g ≤ thr :=
  splitLoop_done (Tet.sizeSq g) thr hthr (Tet.iMaxEdge g) 4 (by norm_num) m hcontr n l hl

/-- a concrete run: the five default tetrahedra, cubic metric, squared threshold 3/4: five passes suffice (the result
    passes the break test), so by `splitLoop_fuel_irrelevant` any larger fuel gives the same 64 tetrahedra -/
example :
    let g : Gram := ⟨1, 0, 0, 1, 0, 1⟩
    decide (maxOf ((splitSize g (3/4) 5 (initTets fiveVerts none)).map (Tet.sizeSq g)) ≤ 3/4) = true ∧
    (splitSize g (3/4) 5 (initTets fiveVerts none)).length = 64 := by
  have hg : Gram.sq ⟨1, 0, 0, 1, 0, 1⟩ = fun e => e.x * e.x + e.y * e.y + e.z * e.z :=
    funext fun e => by simp only [Gram.sq]; ring
  simp only [splitSize]
  delta Tet.iMaxEdge Tet.sizeSq Tet.edgeSq
  simp only [hg]
  decide +kernel

/-! ## The pieces of an edge split TILE the parent tetrahedron (any edge `e`, any `ndiv = n > 0`), in the
    parent's own frame (`divideTet_vertices`: the pieces sit at `t.K +` these vertices): a point lies in the closed
    parent iff it lies in one of the closed pieces, and for a non-degenerate parent no point lies in the interior of two
    different pieces. -/

/-- the four vertices of piece `i` (relative to the parent's `K`), as `divideTet` passes them to `mkTet` -/
def pieceVerts (t : Tet) (e n i : Nat) : V3 × V3 × V3 × V3 := pieceQ (quadOf t e) n i

theorem divideTet_pieces (t : Tet) (e n : Nat) (refine : Bool) :
    divideTet t e n refine = (List.range n).map fun i : Nat =>
      mkTet (pieceVerts t e n i).1 (pieceVerts t e n i).2.1 (pieceVerts t e n i).2.2.1 (pieceVerts t e n i).2.2.2
        t.K (t.factor / (n : Rat)) (t.level + (if refine then 1 else 0)) (t.split + (if refine then 0 else 1)) := rfl

theorem divideTet_tiles (t : Tet) (e n : Nat) (hn : 0 < n) (p : V3) :
    (inTetClosed (t.v0, t.v1, t.v2, t.v3) p ↔ ∃ i, i < n ∧ inTetClosed (pieceVerts t e n i) p) ∧
    (t.volume ≠ 0 → ∀ i j, i < n → j < n → i ≠ j →
      inTetOpen (pieceVerts t e n i) p → inTetOpen (pieceVerts t e n j) p → False) := by
  constructor
  · rw [quadOf_closed t e p]
    constructor
    · exact pieces_cover (quadOf t e) n hn p
    · rintro ⟨i, hi, h⟩; exact piece_inside (quadOf t e) n i hi p h
  · intro hv i j _ _ hij h1 h2
    have hq : detQ (quadOf t e) ≠ 0 := by
      have hD : detQ (t.v0, t.v1, t.v2, t.v3) ≠ 0 := fun h0 =>
        hv (by rw [Tet.volume, volume4_eq_detQ (t.v0, t.v1, t.v2, t.v3), h0, (absR_eq_zero 0).mpr rfl, zero_div])
      rcases detQ_quadOf t e with h | h <;> rw [h]
      · exact hD
      · exact neg_ne_zero.mpr hD
    rcases Nat.lt_or_gt_of_ne hij with h | h
    · exact pieces_disjoint (quadOf t e) hq n i j hn h p h1 h2
    · exact pieces_disjoint (quadOf t e) hq n j i hn h p h2 h1

/-- non-vacuity: the corner tetrahedron of the default set has non-zero volume -/
example : ((initTets fiveVerts none).getD 0 default).volume ≠ 0 := by decide +kernel

/-! ## The starting set: weights, and the five default tetrahedra tile the cell -/

/-- default weights: each starting tetrahedron gets `volume / Σ volume` (so they sum to 1 when the total is not 0) -/
theorem initTets_weights (verts : List (V3 × V3 × V3 × V3))
    (hv : (verts.map fun q => volume4 q.1 q.2.1 q.2.2.1 q.2.2.2).sum ≠ 0) :
    (initTets verts none).map Tet.factor =
      (verts.map fun q => volume4 q.1 q.2.1 q.2.2.1 q.2.2.2 / (verts.map fun q => volume4 q.1 q.2.1 q.2.2.1 q.2.2.2).sum) ∧
    tetTotalW (initTets verts none) = 1 := by
  have e := initTets_factors verts ((verts.map fun q => volume4 q.1 q.2.1 q.2.2.1 q.2.2.2).map
    fun v => v / (verts.map fun q => volume4 q.1 q.2.1 q.2.2.1 q.2.2.2).sum) (by simp)
  have e' : (initTets verts none).map Tet.factor = _ := (List.map_map ..).trans e
  refine ⟨e'.trans (List.map_map ..), ?_⟩
  rw [tetTotalW, e', sum_map_div, div_self hv]

/-- the five default tetrahedra: volumes 1/6,1/6,1/6,1/6,1/3 of the unit cell, weights equal to the volumes -/
theorem five_tetra_volumes :
    (initTets fiveVerts none).map Tet.volume = [1/6, 1/6, 1/6, 1/6, 1/3] ∧
    (initTets fiveVerts none).map Tet.factor = [1/6, 1/6, 1/6, 1/6, 1/3] ∧
    tetTotalVol (initTets fiveVerts none) = 1 ∧ tetTotalW (initTets fiveVerts none) = 1 := by
  decide +kernel

/-- every point of the cell `[-1/2, 1/2]³` lies in one of the five (closed) tetrahedra -/
theorem five_tetra_cover (p : V3) (hx : -1/2 ≤ p.x ∧ p.x ≤ 1/2) (hy : -1/2 ≤ p.y ∧ p.y ≤ 1/2)
    (hz : -1/2 ≤ p.z ∧ p.z ≤ 1/2) : ∃ q ∈ fiveVerts, inTetClosed q p := by
  obtain ⟨x, y, z⟩ := p
  simp only at hx hy hz
  -- cube coordinates `u = x + 1/2` etc.; the four planes `u + v + w = 1`, … cut off the corner tetrahedra
  obtain ⟨u, rfl⟩ : ∃ u, x = u - 1/2 := ⟨x + 1/2, by ring⟩
  obtain ⟨v, rfl⟩ : ∃ v, y = v - 1/2 := ⟨y + 1/2, by ring⟩
  obtain ⟨w, rfl⟩ : ∃ w, z = w - 1/2 := ⟨z + 1/2, by ring⟩
  have u0 : 0 ≤ u := by linarith only [hx.1]
  have u1 : 0 ≤ 1 - u := by linarith only [hx.2]
  have v0 : 0 ≤ v := by linarith only [hy.1]
  have v1 : 0 ≤ 1 - v := by linarith only [hy.2]
  have w0 : 0 ≤ w := by linarith only [hz.1]
  have w1 : 0 ≤ 1 - w := by linarith only [hz.2]
  -- the weights in each of the five regions; the combination is checked for all at the end
  by_cases c1 : u + v + w ≤ 1
  on_goal 2 => by_cases c2 : u - v + w ≥ 1
  on_goal 3 => by_cases c3 : u + v - w ≥ 1
  on_goal 4 => by_cases c4 : -u + v + w ≥ 1
  on_goal 1 => refine ⟨fiveVerts[0], List.getElem_mem _, 1 - u - v - w, u, v, w, by linarith only [c1], u0, v0, w0, ?_⟩
  on_goal 2 => refine ⟨fiveVerts[1], List.getElem_mem _, u + w - v - 1, 1 - u, 1 - w, v, by linarith only [c2], u1, w1, v0, ?_⟩
  on_goal 3 => refine ⟨fiveVerts[2], List.getElem_mem _, u + v - w - 1, 1 - v, 1 - u, w, by linarith only [c3], v1, u1, w0, ?_⟩
  on_goal 4 => refine ⟨fiveVerts[3], List.getElem_mem _, v + w - u - 1, 1 - v, 1 - w, u, by linarith only [c4], v1, w1, u0, ?_⟩
  on_goal 5 => refine ⟨fiveVerts[4], List.getElem_mem _, (-u - v + w + 1) / 2, (-u + v - w + 1) / 2, (u - v - w + 1) / 2,
    (u + v + w - 1) / 2, by linarith only [c3], by linarith only [c2], by linarith only [c4], by linarith only [c1], ?_⟩
  all_goals
    simp only [fiveVerts, List.getElem_cons_succ, List.getElem_cons_zero, V3.sub, h]
    exact ⟨by ring, by ring, by ring, by ring⟩

/-- every one of the five tetrahedra lies inside the cell -/
theorem five_tetra_inside (p : V3) (q : V3 × V3 × V3 × V3) (hq : q ∈ fiveVerts) (hp : inTetClosed q p) :
    (-1/2 ≤ p.x ∧ p.x ≤ 1/2) ∧ (-1/2 ≤ p.y ∧ p.y ≤ 1/2) ∧ (-1/2 ≤ p.z ∧ p.z ≤ 1/2) := by
  have key : ∀ f ∈ cubeFaces, 0 ≤ affV f p := fun f hf =>
    affV_nonneg hp f fun v hv => fiveVerts_in_cube q hq v hv f hf
  simp only [cubeFaces, List.forall_mem_cons, List.not_mem_nil, false_imp_iff, implies_true, and_true, affV] at key
  obtain ⟨k1, k2, k3, k4, k5, k6⟩ := key
  exact ⟨⟨by linarith only [k1], by linarith only [k2]⟩, ⟨by linarith only [k3], by linarith only [k4]⟩,
    ⟨by linarith only [k5], by linarith only [k6]⟩⟩

/-- no point lies in the interior of two different ones: with the two theorems above, the five tetrahedra tile the cell -/
theorem five_tetra_disjoint (p : V3) (i j : Nat) (hi : i < 5) (hj : j < 5) (hij : i ≠ j)
    (h1 : inTetOpen (fiveVerts.getD i default) p) (h2 : inTetOpen (fiveVerts.getD j default) p) : False := by
  have key : ∀ i j : Nat, i < 5 → j < 5 → i < j →
      inTetOpen (fiveVerts.getD i default) p → inTetOpen (fiveVerts.getD j default) p → False := by
    intro i j _ hj hij h1 h2
    -- the plane that cuts off the corner tetrahedron `i` separates the two
    obtain ⟨s1, s2⟩ := cutPlane_separates i (by omega) j hj hij
    have := affV_pos h1 _ s1
    have := affV_pos h2 _ s2
    rw [affV_negP] at this
    linarith
  rcases Nat.lt_or_gt_of_ne hij with hlt | hlt
  · exact key i j hi hj hlt h1 h2
  · exact key j i hj hi hlt h2 h1

/-! ## non-vacuity: concrete instances -/

example : OrbitHyp (2, 2, 2) (starIdx exampleSyms (2, 2, 2)) := orbitCheck_sound _ _ (by decide +kernel)

example : (getKList exampleSyms (2, 2, 2) true).map KPoint.factor = [1/8, 1/8, 1/4, 1/4, 1/8, 1/8] := by
  decide +kernel

/-- a two-step history with merging of equivalent children; the total weight stays 1 -/
example : (historyStates exampleSyms true (true, true, true) (getKList exampleSyms (2, 2, 2) true)
      [((2, 2, 2), [2]), ((2, 1, 1), [0, 7])]).map (fun l => (l.length, totalW l)) = [(6, 1), (8, 1), (11, 1)] := by
  decide +kernel

/-- the hypotheses of `divide_tiles` / `splitVolume_terminates` are satisfiable: a cell of the 4x4x2 grid divided 2x2x3,
    and the five default tetrahedra with `vmax = 1/50` (all volumes `≤ 2^5/50`) -/
example (p : V3) :
    (inCell { K := ⟨1/4, 0, 1/2⟩, dK := ⟨1/4, 1/4, 1/2⟩, factor := 1/32, level := 0 } p ↔
      ∃ c : Idx, (c.1 < 2 ∧ c.2.1 < 2 ∧ c.2.2 < 3) ∧
        inCell (child { K := ⟨1/4, 0, 1/2⟩, dK := ⟨1/4, 1/4, 1/2⟩, factor := 1/32, level := 0 } (2, 2, 3) c) p) :=
  (divide_tiles _ (2, 2, 3) ⟨by norm_num, by norm_num, by norm_num⟩ ⟨by norm_num, by norm_num, by norm_num⟩ p).1

example (g : Gram) : ∀ t ∈ splitVolume g (1/50) 6 (initTets fiveVerts none), t.volume ≤ 1/50 :=
  splitVolume_terminates g (1/50) (by norm_num) 5 _ (by
    intro t ht
    have h : ∀ t ∈ initTets fiveVerts none, t.volume ≤ 2 ^ 5 * (1/50 : Rat) := by decide +kernel
    exact h t ht)

end WB.C06
