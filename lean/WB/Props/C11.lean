/-
  C11 — property theorems: a run() stopped after any completed iteration and continued with restart=True
  (restart_iteration = -1), in one or several steps, reproduces the uninterrupted run — for every refinement
  policy, every split, both storage modes, and every order in which the file system lists the factors files.
  Helper lemmas: WB/Lemmas/C11.lean, WB/Lemmas/C11Run.lean.
-/
import WB.Lemmas.C11Run

namespace WB.C11
open WB.C10

/-- T1.  With the repaired `read_factors` the iteration that is loaded depends only on the SET of iteration
    numbers present (any re-ordering of the directory listing gives the same answer), for every `iter`. -/
theorem chooseIter_order_independent (l1 l2 : List Nat) (h : l1.Perm l2) (iter : Int) :
    chooseIter true l1 iter = chooseIter true l2 iter := by
  unfold chooseIter
  simp only [if_true, sortNat_eq_of_perm h]

/-- T1 at the level of the directory: same files listed in another order ⇒ same (iteration, factors) loaded. -/
theorem readFactors_order_independent {K : Type} (d1 d2 : Disk K) (h : d1.facs.Perm d2.facs)
    (hn : (d1.facs.map (·.1)).Nodup) (iter : Int) :
    readFactors true d1 iter = readFactors true d2 iter := by
  unfold readFactors
  rw [chooseIter_order_independent (listing d1) (listing d2) (h.map _)]
  cases chooseIter true (listing d2) iter with
  | none => rfl
  | some i => dsimp only; rw [readFile_perm h hn]

/-- T1 (meaning of `restart_iteration = -1`): the LARGEST iteration number present is loaded. -/
theorem chooseIter_latest_is_max (l : List Nat) (m : Nat) (hm : m ∈ l) (hmax : ∀ x ∈ l, x ≤ m) :
    chooseIter true l (-1) = some m :=
  chooseIter_latest hm hmax

example : chooseIter true [1, 0, 3, 2] (-1) = some 3 ∧ chooseIter true [3, 1] (-2) = some 1 ∧
    chooseIter true [0, 1, 5] (-3) = some 1 ∧ chooseIter true [2, 0, 1] (-7) = some 0 := by decide +kernel

/-- the defect that was repaired (F4): the ORIGINAL read_factors took the last file in listing order — the same
    three files listed as `0,2,1` restart from iteration 1 instead of 2 -/
theorem old_read_factors_depends_on_listing :
    chooseIter false [0, 1, 2] (-1) = some 2 ∧ chooseIter false [0, 2, 1] (-1) = some 1 ∧
    chooseIter false [2, 1, 0] (-1) = some 0 := by decide +kernel

variable {K : Type} [Field K] [DecidableEq K]

/-- T2 (one restart).  Run `n1` iterations; restart from the files this run left behind — the factors files
    listed in ANY order — and run `n2` more.  The restarted call succeeds, ends in exactly the state of the
    uninterrupted `n1+n2` run, has written exactly the results of iterations `n1+1 … n1+n2`, K_list.pickle is
    identical and the factors files are the same set.  For every refinement policy and both storage modes that
    allow a restart. -/
theorem restart_equiv (policy : Policy K) (mode : Mode) (hm : mode ≠ Mode.clear) (init : List (K × K))
    (n1 n2 : Nat) (d : Disk K)
    (hk : d.klog = (runFresh policy mode init n1).disk.klog)
    (hf : d.facs.Perm (runFresh policy mode init n1).disk.facs) :
    ∃ R, runRestart true policy mode d (-1) n2 = some R ∧
      R.st = (runFresh policy mode init (n1 + n2)).st ∧
      (runFresh policy mode init (n1 + n2)).saved = (runFresh policy mode init n1).saved ++ R.saved ∧
      R.iter = (runFresh policy mode init (n1 + n2)).iter ∧
      R.disk.klog = (runFresh policy mode init (n1 + n2)).disk.klog ∧
      R.disk.facs.Perm (runFresh policy mode init (n1 + n2)).disk.facs := by
  obtain ⟨R, hR, heq, hsv⟩ := restart_steps policy mode (runInv_runFresh policy mode hm init n1) d hk hf n2
  rw [runFresh_add]
  exact ⟨R, hR, heq.st, hsv, heq.iter, heq.klog, heq.facs⟩

/-- T2 (any split, any listing orders).  First call with `n` iterations, then one restarted call per entry of
    `more`; before every restart the directory may list the factors files in another order (`shuffle`, any
    function that only permutes).  The last call ends in the state of the uninterrupted run with
    `n + Σ more` iterations and its saved results are the tail of the uninterrupted run's saved results. -/
theorem restart_campaign_equiv (policy : Policy K) (mode : Mode) (hm : mode ≠ Mode.clear) (init : List (K × K))
    (shuffle : List (Nat × List K) → List (Nat × List K)) (hs : ∀ l, (shuffle l).Perm l) (n : Nat)
    (more : List Nat) :
    ∃ R, runSplit policy mode init shuffle n more = some R ∧
      R.st = (runFresh policy mode init (n + more.sum)).st ∧
      R.iter = (runFresh policy mode init (n + more.sum)).iter ∧
      R.disk.klog = (runFresh policy mode init (n + more.sum)).disk.klog ∧
      R.disk.facs.Perm (runFresh policy mode init (n + more.sum)).disk.facs ∧
      ∃ pre, (runFresh policy mode init (n + more.sum)).saved = pre ++ R.saved := by
  obtain ⟨R, h1, h2, h3⟩ := campaign_from policy mode hm init shuffle hs more n (runFresh policy mode init n)
    ⟨rfl, rfl, List.Perm.refl _, rfl, rfl⟩ ⟨[], rfl⟩
  exact ⟨R, h1, h2.st, h2.iter, h2.klog, h2.facs, h3⟩

/-! ## what the refinement decision may depend on

  `restart_equiv` quantifies over `Policy K = List (KP K) → List (RefOp K)`: the decision is a function of the
  K-point list — values, weights, flags, order — i.e. of state that IS persisted (K_list.pickle, the factors
  files, the per-K result files) and therefore identical after a restart.  The two theorems below make the
  boundary explicit. -/

/-- T3.  A process may carry any amount of non-persisted state `h` (evolving by any `stepH`, rebuilt by any
    `initH` at a restart): as long as the refinement decision does not READ it, restart equivalence holds exactly
    as in `restart_equiv`. -/
theorem restart_equiv_persisted_only {H : Type} (policyH : H → Policy K) (stepH : H → State K → H)
    (initH : State K → H) (hind : ∀ h h', policyH h = policyH h')
    (mode : Mode) (hm : mode ≠ Mode.clear) (init : List (K × K)) (n1 n2 : Nat) (d : Disk K)
    (hk : d.klog = (runFreshH policyH stepH initH mode init n1).1.disk.klog)
    (hf : d.facs.Perm (runFreshH policyH stepH initH mode init n1).1.disk.facs) :
    ∃ R, runRestartH policyH stepH initH mode d n2 = some R ∧
      R.1.st = (runFreshH policyH stepH initH mode init (n1 + n2)).1.st ∧
      (runFreshH policyH stepH initH mode init (n1 + n2)).1.saved =
        (runFreshH policyH stepH initH mode init n1).1.saved ++ R.1.saved := by
  have h0 : H := initH (freshStart mode init).st
  have hfresh := runFreshH_fst policyH stepH hind h0 initH mode init
  rw [hfresh] at hk hf
  obtain ⟨R, hR, hst, hsv, _⟩ := restart_equiv (policyH h0) mode hm init n1 n2 d hk hf
  rw [← runRestartH_fst policyH stepH hind h0 initH] at hR
  obtain ⟨RH, hRH, rfl⟩ := Option.map_eq_some_iff.1 hR
  exact ⟨RH, hRH, by rw [hfresh]; exact hst, by rw [hfresh, hfresh]; exact hsv⟩

/-- T3' — the hypothesis is needed.  A decision that reads non-persisted state breaks restart equivalence.
    Here the hidden state is the number of iterations done by THIS process (re-created as 0 at a restart) and the
    decision refines the K-point with that index: 2 iterations in one go give 3/2, 1 + 1 iterations give 13/4
    (the restarted process refines the dead point 0 again).
    (A weight cache that is refreshed by set_factor() at a restart but not by add_factor() in the running process
    is hidden state of exactly this kind.) -/
theorem hidden_state_breaks_restart :
    let policyH : Nat → Policy Rat := fun h _ => [RefOp.divide h [1, 2]]
    let stepH : Nat → State Rat → Nat := fun h _ => h + 1
    let initH : State Rat → Nat := fun _ => 0
    let init : List (Rat × Rat) := [(3, 1/2), (5, 1/2)]
    let d := (runFreshH policyH stepH initH Mode.memory init 1).1.disk
    (runFreshH policyH stepH initH Mode.memory init 2).1.st.resultAll = some (3/2) ∧
    (runRestartH policyH stepH initH Mode.memory d 1).map (fun R => R.1.st.resultAll) = some (some (13/4)) := by
  decide +kernel

/-! ## the concrete selection rule of run()

  `selectionPolicy argsort crit ncrit adpt_fac expand` is run()'s decision: for every criterion the `adpt_fac` last
  positions of `argsort(max|result| × weight)`, their union, then division/merging (`expand`).  It reads the results
  (through `crit`, the pickled `_max`) and the weights only — persisted state. -/

/-- T4.  Restart equivalence for the concrete selection rule, for EVERY function `argsort` (stable or not, whatever it
    does with equal scores), every criterion vector, `adpt_fac` and every `expand`.  No tie-freeness is needed here:
    after a restart from the LATEST iteration `argsort` is applied to exactly the same arrays as in the uninterrupted
    run, and a function returns equal values on equal arguments. -/
theorem restart_equiv_selection_rule (argsort : List Rat → List Nat) (crit : Rat → List Rat) (ncrit adptFac : Nat)
    (expand : List Nat → List (KP Rat) → List (RefOp Rat)) (mode : Mode) (hm : mode ≠ Mode.clear)
    (init : List (Rat × Rat)) (n1 n2 : Nat) (d : Disk Rat)
    (hk : d.klog = (runFresh (selectionPolicy argsort crit ncrit adptFac expand) mode init n1).disk.klog)
    (hf : d.facs.Perm (runFresh (selectionPolicy argsort crit ncrit adptFac expand) mode init n1).disk.facs) :
    ∃ R, runRestart true (selectionPolicy argsort crit ncrit adptFac expand) mode d (-1) n2 = some R ∧
      R.st = (runFresh (selectionPolicy argsort crit ncrit adptFac expand) mode init (n1 + n2)).st ∧
      (runFresh (selectionPolicy argsort crit ncrit adptFac expand) mode init (n1 + n2)).saved =
        (runFresh (selectionPolicy argsort crit ncrit adptFac expand) mode init n1).saved ++ R.saved := by
  obtain ⟨R, h1, h2, h3, _⟩ := restart_equiv (selectionPolicy argsort crit ncrit adptFac expand) mode hm init n1 n2 d hk hf
  exact ⟨R, h1, h2, h3⟩

/-- T4' (tie-free data).  When the scores of every criterion are pairwise different, the selection does not depend on
    WHICH admissible argsort is used: any two functions that return a sorting permutation select the same points.
    (This is the situation in which runs that apply argsort to different arrays — another numpy version, or a restart
    from an EARLIER iteration, where stale zero-weight points sit in the list — can be expected to agree.) -/
theorem selection_independent_of_argsort_when_tie_free (as1 as2 : List Rat → List Nat)
    (h1 : ∀ v, IsArgsort v (as1 v)) (h2 : ∀ v, IsArgsort v (as2 v)) (crit : Rat → List Rat) (ncrit adptFac : Nat)
    (pts : List (KP Rat)) (htie : ∀ c, c < ncrit → (kmaxRow crit pts c).Nodup) :
    selectPoints as1 crit ncrit adptFac pts = selectPoints as2 crit ncrit adptFac pts := by
  unfold selectPoints
  congr 1
  apply List.flatMap_congr
  intro c hc
  rw [argsort_unique_of_nodup (htie c (List.mem_range.1 hc)) (h1 _) (h2 _)]

/-- T4'' — tie-freeness is needed: on two equal scores the stable argsort and the one that puts later positions
    first are both admissible answers of `np.argsort`, and they select different K-points for refinement.
    (Observed on the real code: restarting from an earlier iteration with an integer-valued calculator refines other
    points than the original run.) -/
theorem argsort_ties_change_selection :
    let pts : List (KP Rat) := [KP.fresh 3 (1/2), KP.fresh 3 (1/2)]
    let crit : Rat → List Rat := fun r => [r]
    IsArgsort (kmaxRow crit pts 0) (argsortStable (kmaxRow crit pts 0)) ∧
    IsArgsort (kmaxRow crit pts 0) (argsortRev (kmaxRow crit pts 0)) ∧
    selectPoints argsortStable crit 1 1 pts = [1] ∧ selectPoints argsortRev crit 1 1 pts = [0] := by
  refine ⟨⟨?_, ?_⟩, ⟨?_, ?_⟩, ?_, ?_⟩ <;> decide +kernel

/-- T4-padding (restart from an EARLIER iteration: stale zero-weight points behind the live ones).  Scores are
    `max|result| * weight ≥ 0`.  If the POSITIVE scores are pairwise different and at least `k = adpt_fac` of them
    exist, then the `k` positions selected from the array padded with `m` zero scores are exactly the positions
    selected from the unpadded array — for ANY admissible argsorts on the two arrays (ties among the zero scores of
    dead and stale points may be broken in any way). -/
theorem selection_stable_under_zero_padding (v : List Rat) (m k : Nat) (p q : List Nat)
    (hnn : ∀ x ∈ v, 0 ≤ x)
    (hdist : ∀ i j, i < v.length → j < v.length → 0 < v.getD i 0 → v.getD i 0 = v.getD j 0 → i = j)
    (hp : IsArgsort v p) (hq : IsArgsort (v ++ List.replicate m 0) q)
    (hk : k ≤ ((List.range v.length).filter (fun i => decide (0 < v.getD i 0))).length) :
    lastK k p = lastK k q :=
  -- `hnn` is not needed: `lastK_padded` holds for scores of any sign
  lastK_padded v m k p q hdist hp hq hk

/-- non-vacuity: scores `[3, 0, 5, 1]` (one dead point), 3 stale zero entries appended, adpt_fac = 2 -/
example :
    IsArgsort [3, 0, 5, 1] (argsortStable [3, 0, 5, 1]) ∧
    IsArgsort ([3, 0, 5, 1] ++ List.replicate 3 0) (argsortRev ([3, 0, 5, 1] ++ List.replicate 3 0)) ∧
    lastK 2 (argsortStable [3, 0, 5, 1]) = [0, 2] ∧
    lastK 2 (argsortRev ([3, 0, 5, 1] ++ List.replicate 3 0)) = [0, 2] := by
  refine ⟨⟨by decide +kernel, by decide +kernel⟩, ⟨by decide +kernel, by decide +kernel⟩, by decide +kernel, by decide +kernel⟩

/-- non-vacuity of T4': a tie-free instance with two criteria and adpt_fac = 2 -/
example :
    let pts : List (KP Rat) := [KP.fresh 3 (1/2), KP.fresh 5 (1/4), KP.fresh 1 (1/4)]
    let crit : Rat → List Rat := fun r => [r, 10 - r]
    (kmaxRow crit pts 0).Nodup ∧ (kmaxRow crit pts 1).Nodup ∧
    selectPoints argsortStable crit 2 2 pts = [1, 0, 2] ∧ selectPoints argsortRev crit 2 2 pts = [1, 0, 2] := by
  decide +kernel

/-- a policy for the examples: refine the last K-point into two children with values 1 and 2, merge nothing -/
def lastInTwo : Policy Rat := fun pts => [RefOp.divide (pts.length - 1) [1, 2]]

/-- 1 + (2 + 1) iterations with the listing reversed before each restart, dump storage: the campaign ends with the
    same weights and result as the uninterrupted 4-iteration run and saves the same last result -/
example :
    (runSplit lastInTwo Mode.dump [((3 : Rat), 1/2), (5, 1/2)] List.reverse 1 [2, 1]).map
        (fun R => (R.st.resultAll, R.st.factors, R.iter, R.saved)) =
      some (some (65/32), [1/2, 0, 1/4, 0, 1/8, 0, 1/16, 0, 1/32, 1/32], 4, [(4, 65/32)]) ∧
    (runFresh lastInTwo Mode.dump [((3 : Rat), 1/2), (5, 1/2)] 4).st.resultAll = some (65/32) := by
  decide +kernel

/-- what the ORIGINAL read_factors did on a reversed listing: the restart silently continues from iteration 0
    (its next saved result is "iteration 1"), the repaired one from iteration 2 -/
example :
    let d := (runFresh lastInTwo Mode.memory [((3 : Rat), 1/2), (5, 1/2)] 2).disk
    (runRestart false lastInTwo Mode.memory { klog := d.klog, facs := d.facs.reverse } (-1) 1).map (·.iter) = some 1 ∧
    (runRestart true lastInTwo Mode.memory { klog := d.klog, facs := d.facs.reverse } (-1) 1).map (·.iter) = some 3 := by
  decide +kernel

end WB.C11
