/-
  C15 — degenerate multiplets are never split: property theorems.
-/
import WB.Lemmas.Pairs
import WB.Lemmas.Window

namespace WB.C15

/-! ## band blocks (`get_borders`, `find_degen`) -/

theorem mem_borders (E : Nat → Rat) (th : Rat) (n : Nat) (kr : Bool) (i : Nat) :
    i ∈ borders E th n kr ↔
      i ≤ n ∧ (i = 0 ∨ i = n ∨ isCut E th n i = true) ∧ (kr = true → i % 2 = 0) := by
  have h : (!kr || i % 2 == 0) = true ↔ (kr = true → i % 2 = 0) := by cases kr <;> simp
  simp only [borders, List.mem_filter, List.mem_range, Nat.lt_succ_iff, Bool.and_eq_true, h, Bool.or_eq_true,
    beq_iff_eq, or_assoc]

theorem borders_sorted (E : Nat → Rat) (th : Rat) (n : Nat) (kr : Bool) :
    (borders E th n kr).Pairwise (· < ·) :=
  List.Pairwise.filter _ List.pairwise_lt_range

/-- Completeness of the boundaries: every (even, if Kramers) index with a gap above the threshold
    is a block boundary. -/
theorem cut_is_boundary (E : Nat → Rat) (th : Rat) (n : Nat) (kr : Bool) (i : Nat)
    (h0 : 0 < i) (hi : i < n) (hgap : E i - E (i - 1) > th) (heven : kr = true → i % 2 = 0) :
    i ∈ borders E th n kr :=
  (mem_borders ..).2 ⟨le_of_lt hi, Or.inr (Or.inr ((isCut_iff ..).2 ⟨h0, hi, hgap⟩)), heven⟩

/-- Partition.  For `n ≥ 1` bands (and an even number of bands when Kramers pairs are requested)
    every band index lies in exactly one block. -/
theorem blocks_partition (E : Nat → Rat) (th : Rat) (n : Nat) (kr : Bool)
    (hn : 0 < n) (hk : kr = true → n % 2 = 0) (j : Nat) (hj : j < n) :
    ∃ ab ∈ blocks E th n kr, (ab.1 ≤ j ∧ j < ab.2) ∧
      ∀ cd ∈ blocks E th n kr, cd.1 ≤ j → j < cd.2 → cd = ab := by
  have hs := borders_sorted E th n kr
  have h0 : 0 ∈ borders E th n kr := (mem_borders ..).2 ⟨le_of_lt hn, Or.inl rfl, fun _ => rfl⟩
  have hN : n ∈ borders E th n kr := (mem_borders ..).2 ⟨le_refl _, Or.inr (Or.inl rfl), hk⟩
  obtain ⟨ab, hab, h3⟩ := pairs_cover _ hs 0 h0 n hN j (Nat.zero_le _) hj
  exact ⟨ab, hab, h3, fun cd hcd h4 h5 => pairs_disjoint _ hs cd hcd ab hab j h4 h5 h3.1 h3.2⟩

/-- Internal gaps.  Without Kramers grouping, inside a block all gaps are at most the threshold. -/
theorem blocks_internal_gap (E : Nat → Rat) (th : Rat) (n : Nat) (a b i : Nat)
    (hab : (a, b) ∈ blocks E th n false) (h1 : a < i) (h2 : i < b) :
    E i - E (i - 1) ≤ th := by
  obtain ⟨_, hb, _, hno⟩ := pairs_mem_consecutive _ (borders_sorted E th n false) a b hab
  have hbn : b ≤ n := ((mem_borders ..).1 hb).1
  by_contra hgt
  -- a gap above the threshold would be a border strictly between the consecutive borders `a`, `b`
  exact hno i (cut_is_boundary E th n false i (Nat.zero_lt_of_lt h1) (lt_of_lt_of_le h2 hbn) (lt_of_not_ge hgt) nofun)
    ⟨h1, h2⟩

/-- Boundaries.  Every block boundary other than 0 and n has a gap larger than the threshold,
    and is an even index when Kramers grouping is requested. -/
theorem blocks_boundary_gap (E : Nat → Rat) (th : Rat) (n : Nat) (kr : Bool) (a b : Nat)
    (hab : (a, b) ∈ blocks E th n kr) :
    (0 < a → E a - E (a - 1) > th) ∧ (b < n → E b - E (b - 1) > th) ∧
      (kr = true → a % 2 = 0 ∧ b % 2 = 0) := by
  obtain ⟨ha, hb, hlt, _⟩ := pairs_mem_consecutive _ (borders_sorted E th n kr) a b hab
  obtain ⟨ha1, ha2, ha3⟩ := (mem_borders ..).1 ha
  obtain ⟨hb1, hb2, hb3⟩ := (mem_borders ..).1 hb
  have gap : ∀ i, (i = 0 ∨ i = n ∨ isCut E th n i = true) → 0 < i → i < n → E i - E (i - 1) > th := by
    rintro i (h | h | h) h0 hn
    · exact absurd h h0.ne'
    · exact absurd h hn.ne
    · exact ((isCut_iff ..).1 h).2.2
  exact ⟨fun h0 => gap a ha2 h0 (lt_of_lt_of_le hlt hb1), fun hbn => gap b hb2 (Nat.zero_lt_of_lt hlt) hbn,
    fun hk => ⟨ha3 hk, hb3 hk⟩⟩

/-- The hypothesis "even number of bands" in `blocks_partition` is needed: with Kramers grouping and
    five bands the last band belongs to no block (finding F11; input outside physical use). -/
theorem kramers_odd_drops_last_band :
    ∃ (E : Nat → Rat), ∀ ab ∈ blocks E 0 5 true, ¬ (ab.1 ≤ 4 ∧ 4 < ab.2) := by
  refine ⟨fun i => (i : Rat), ?_⟩
  decide +kernel

/-- computed instances: a 6-band spectrum with a doublet and a triplet, without and with Kramers pairing -/
example : blocks (ofList [0, 1, 1, 2, 2, 2]) (1/10) 6 false = [(0, 1), (1, 3), (3, 6)] := by decide +kernel
example : blocks (ofList [0, 0, 1, 1, 2, 2]) (1/10) 6 true = [(0, 2), (2, 4), (4, 6)] := by decide +kernel

/-! ## energy-window selection (`select_window_degen`) -/

/-- No split.  For energies sorted ascending, bands closer than the threshold are either both
    selected or both left out — for `include_degen = True` and `False` alike. -/
theorem selectWindow_no_split (E : Nat → Rat) (th wmin wmax : Rat) (n : Nat) (incl : Bool)
    (hsorted : ∀ i j, i ≤ j → j < n → E i ≤ E j)
    (i : Nat) (hi : i + 1 < n) (hclose : E (i + 1) - E i < th) :
    selectWindow E th wmin wmax n incl i = selectWindow E th wmin wmax n incl (i + 1) := by
  rcases hlo : firstIn E wmin wmax n with _ | lo
  · simp only [selectWindow, hlo]
  rcases hhi : lastIn E wmin wmax n with _ | hi'
  · simp only [selectWindow, hlo, hhi]
  rw [Bool.eq_iff_iff]
  -- the link `i ~ i+1` is the end of no chain.  Left for `omega`: when the window edge falls on the link (`lo = i+1`
  -- or `hi = i`), that chain is removed as a whole, and the partner of the removed band was outside `lo..hi` anyway
  cases incl
  · rw [selectWindow_false_iff E th wmin wmax hsorted hlo hhi (Nat.lt_of_succ_lt hi),
      selectWindow_false_iff E th wmin wmax hsorted hlo hhi hi,
      downChain_le_succ_iff E th hclose, succ_le_upChain_iff E th hi hclose]
    refine and_congr ?_ ?_
    · have h1 := (downChain_le_succ_iff E th hclose lo).1
      have h2 := downChain_le E th lo
      have h3 := upChain_ge E th n lo
      omega
    · have h1 := (succ_le_upChain_iff E th hi hclose hi').2
      have h2 := downChain_le E th hi'
      have h3 := upChain_ge E th n hi'
      omega
  · rw [selectWindow_true_iff E th wmin wmax hsorted hlo hhi (Nat.lt_of_succ_lt hi),
      selectWindow_true_iff E th wmin wmax hsorted hlo hhi hi,
      downChain_le_succ_iff E th hclose, succ_le_upChain_iff E th hi hclose]

/-- Include adds, never removes: with `include_degen = True` every band inside the window is selected. -/
theorem selectWindow_include_superset (E : Nat → Rat) (th wmin wmax : Rat) (n : Nat) (j : Nat) (hj : j < n)
    (hin : inWindow E wmin wmax j = true) :
    selectWindow E th wmin wmax n true j = true :=
  selectWindow_include_superset_aux E th wmin wmax n j hj hin

/-- Exclude removes, never adds: with `include_degen = False` every selected band is inside the window. -/
theorem selectWindow_exclude_subset (E : Nat → Rat) (th wmin wmax : Rat) (n : Nat) (j : Nat)
    (hsel : selectWindow E th wmin wmax n false j = true) :
    inWindow E wmin wmax j = true := by
  unfold selectWindow at hsel
  split at hsel
  · simp only [Bool.false_eq_true, ↓reduceIte, Bool.and_eq_true] at hsel
    exact hsel.1.1
  · simp at hsel

/-- the defect that was repaired (F9): the original rule drops only the band next to the edge and splits a
    triplet `[1, 1.001, 1.002]` cut by `win_max = 1.0015` -/
theorem old_exclude_splits_triplet :
    let E := ofList [0, 1, 1001/1000, 1002/1000, 2]
    selectWindowOld E (1/100) (-1) (2003/2000) 5 1 = true ∧
    selectWindowOld E (1/100) (-1) (2003/2000) 5 2 = false ∧
    E 2 - E 1 < 1/100 := by
  decide +kernel

/-- the repaired rule leaves the whole triplet out -/
example :
    (List.range 5).map (selectWindow (ofList [0, 1, 1001/1000, 1002/1000, 2]) (1/100) (-1) (2003/2000) 5 false)
      = [true, false, false, false, false] := by decide +kernel

/-! ## the threshold the user gives is the threshold of the blocks (boundary value 0) -/

/-- the hand-over of the user's threshold to the grouping: the code passes it on unchanged; the seeded rule
    W-C15 ("a non-positive threshold switches grouping off": 0 ↦ −1) is the alternative -/
def handOver (seeded : Bool) (user : Rat) : Rat := if seeded && decide (user ≤ 0) then -1 else user

/-- for every threshold the blocks used with the code's hand-over are the blocks of the user's threshold;
    the seeded hand-over agrees with it for every POSITIVE threshold (that is why it hid) -/
theorem handOver_faithful (E : Nat → Rat) (n : Nat) (kr : Bool) (user : Rat) :
    blocks E (handOver false user) n kr = blocks E user n kr ∧
      (0 < user → blocks E (handOver true user) n kr = blocks E user n kr) := by
  refine ⟨by simp [handOver], fun h => ?_⟩
  have : ¬ user ≤ 0 := not_le.mpr h
  simp [handOver, this]

/-- Threshold 0.  With `degen_thresh = 0` — the boundary value of "gap at most the threshold" — exactly
    degenerate bands are never separated: a block boundary sits between two DIFFERENT energies. -/
theorem zero_threshold_keeps_exact_ties (E : Nat → Rat) (n : Nat) (kr : Bool) (a b : Nat)
    (hab : (a, b) ∈ blocks E 0 n kr) :
    (0 < a → E (a - 1) < E a) ∧ (b < n → E (b - 1) < E b) := by
  obtain ⟨h1, h2, _⟩ := blocks_boundary_gap E 0 n kr a b hab
  exact ⟨fun h => sub_pos.1 (h1 h), fun h => sub_pos.1 (h2 h)⟩

/-- at threshold 0 the seeded hand-over splits an exactly degenerate pair: bands `[0, 0, 3]` -/
theorem seeded_handOver_splits_exact_pair :
    blocks (ofList [0, 0, 3]) (handOver false 0) 3 false = [(0, 2), (2, 3)] ∧
    blocks (ofList [0, 0, 3]) (handOver true 0) 3 false = [(0, 1), (1, 2), (2, 3)] := by
  decide +kernel

example : (0, 2) ∈ blocks (ofList [0, 0, 3]) 0 3 false := by decide +kernel

end WB.C15
