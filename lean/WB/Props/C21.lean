/-
  C21 — property theorems: orbital rotation matrices form an orthogonal representation; Wannier representation
  matrices are unitary.   (helper lemmas: WB/Lemmas/C21*.lean)

  Conventions of the code (orbitals.py): `S = inv(rot_glb)`; `orb_rot_mat[j,i]` is the coefficient of orbital j in
  `φ_i(S·r)`, i.e.  φ_i(R⁻¹ r) = Σ_j φ_j(r) A_ji(R).  In terms of S the representation property A(R₁R₂) = A(R₁)A(R₂)
  reads  A(S₂·S₁) = A(S₁)·A(S₂).   `Orth3 S` means S Sᵀ = 1 (proper AND improper rotations).
  `r3` is any element of the field with r3·r3 = 3 (√3); `FConst r15 r10 r6` : r15² = 15, r10² = 10, r6² = 6.
-/
import WB.Lemmas.C21D
import WB.Lemmas.C21F2
import Mathlib.Tactic.FieldSimp
import Mathlib.Analysis.Real.Sqrt

namespace WB.C21
open Matrix

/-! ## T1  substitution is functorial ⇒ composition law (abstract) -/

/-- T1.  In a family `φ` with unique coefficient vectors the matrices of substitutions compose. -/
theorem subst_functorial {K : Type} [CommRing K] {X : Type} {n : Type} [Fintype n] [DecidableEq n]
    (φ : n → X → K)
    (hindep : ∀ c : n → K, (∀ x, ∑ l, φ l x * c l = 0) → ∀ l, c l = 0)
    (g1 g2 : X → X) (A B C : Matrix n n K)
    (h2 : ∀ i x, φ i (g2 x) = ∑ j, φ j x * B j i)
    (h1 : ∀ j x, φ j (g1 x) = ∑ l, φ l x * A l j)
    (h12 : ∀ i x, φ i (g2 (g1 x)) = ∑ l, φ l x * C l i) :
    C = A * B :=
  Matrix.ext fun l i => subst_comp φ φ φ hindep g1 g2 A B C h1 h2 h12 l i

/-! ## T2  the explicit p, d and f matrices -/

section shells
variable {K : Type} [Field K]

/-- p: the matrix built by the code is the matrix of the substitution, for every 3×3 matrix `S` -/
theorem p_expansion (S : M3 K) (i : Fin 3) (v : V3 K) :
    pFun i (mulVec3 S v) = sum3 (fun j => pFun j v * rotP S j i) :=
  calc pFun i (mulVec3 S v) = sum3 (fun b => v b * S (pIdx i) b) := by simp only [pFun, mulVec3, sum3]; ring
    _ = _ := (sum3_pIdx _).symm

/-- p: composition law (every pair of matrices) -/
theorem p_composition (S1 S2 : M3 K) (j i : Fin 3) :
    rotP (mulM3 S2 S1) j i = sum3 (fun l => rotP S1 j l * rotP S2 l i) :=
  calc rotP (mulM3 S2 S1) j i = sum3 (fun b => S1 b (pIdx j) * S2 (pIdx i) b) := by
        simp only [rotP, mulM3, sum3]; ring
    _ = _ := (sum3_pIdx _).symm

/-- p: identity for the identity rotation -/
theorem p_identity (j i : Fin 3) : rotP (one3 : M3 K) j i = if j = i then 1 else 0 :=
  if_congr ((pIdx_inj i j).trans eq_comm) rfl rfl

/-- p: orthogonal for every orthogonal `S` (proper or improper): `AᵀA = 1` -/
theorem p_orthogonal (S : M3 K) (hS : Orth3 S) (i i' : Fin 3) :
    sum3 (fun j => rotP S j i * rotP S j i') = if i = i' then 1 else 0 :=
  (sum3_pIdx fun b => S (pIdx i) b * S (pIdx i') b).trans ((hS _ _).trans (if_congr (pIdx_inj i i') rfl rfl))

/-- p is odd under inversion: `A(−S) = −A(S)` -/
theorem p_parity (S : M3 K) (j i : Fin 3) : rotP (fun a b => -S a b) j i = -rotP S j i :=
  rfl

variable [CharZero K] {r3 : K}

/-- d: the matrix built by the code is the matrix of the substitution for every ORTHOGONAL `S`
    (for other `S` the trace term of `evalQuad_decomp` need not vanish) -/
theorem d_expansion (hr : r3 * r3 = 3) (S : M3 K) (hS : Orth3 S) (i : Fin 5) (v : V3 K) :
    dFun r3 i (mulVec3 S v) = sum5 (fun j => dFun r3 j v * rotD r3 S j i) := by
  rw [dFun, ← evalQuad_substQuad, evalQuad_decomp hr, trace_substQuad hS, trace_dQuad, zero_mul, zero_div, add_zero]
  rfl

/-- d: composition law `A(S₂S₁) = A(S₁)A(S₂)` for orthogonal matrices (`subst_comp`, the general form of T1) -/
theorem d_composition (hr : r3 * r3 = 3) (S1 S2 : M3 K) (h1 : Orth3 S1) (h2 : Orth3 S2) (l i : Fin 5) :
    rotD r3 (mulM3 S2 S1) l i = sum5 (fun j => rotD r3 S1 l j * rotD r3 S2 j i) :=
  (subst_comp (dFun r3) (dFun r3) (dFun r3) (dFun_indep hr) (mulVec3 S1) (mulVec3 S2) (rotD r3 S1) (rotD r3 S2)
    (rotD r3 (mulM3 S2 S1))
    (fun j x => (d_expansion hr S1 h1 j x).trans (sum5_eq_sum _))
    (fun i x => (d_expansion hr S2 h2 i x).trans (sum5_eq_sum _))
    (fun i x => by rw [← mulVec3_mul]; exact (d_expansion hr _ (h1.mul h2) i x).trans (sum5_eq_sum _)) l i).trans
    (sum5_eq_sum _).symm

/-- d: identity for the identity rotation -/
theorem d_identity (hr : r3 * r3 = 3) (j i : Fin 5) : rotD r3 (one3 : M3 K) j i = if j = i then 1 else 0 :=
  subst_identity (dFun r3) (dFun_indep hr) (rotD r3 one3) (fun i x =>
    ((congrArg (dFun r3 i) (mulVec3_one x)).symm.trans (d_expansion hr one3 Orth3.one i x)).trans (sum5_eq_sum _)) j i

/-- d: orthogonal for every orthogonal `S`, proper or improper: `AᵀA = 1` -/
theorem d_orthogonal (hr : r3 * r3 = 3) (S : M3 K) (hS : Orth3 S) (i i' : Fin 5) :
    sum5 (fun j => rotD r3 S j i * rotD r3 S j i') = if i = i' then 1 else 0 := by
  have hc := d_composition hr (transpose3 S) S hS.transpose hS i i'
  rw [hS.mul_transpose, d_identity hr] at hc
  rw [hc]
  simp only [sum5, rotD_transpose]

omit [CharZero K] in
/-- d is even under inversion: `A(−S) = A(S)` -/
theorem d_parity (S : M3 K) (j i : Fin 5) : rotD r3 (fun a b => -S a b) j i = rotD r3 S j i := by
  rw [rotD_eq, substQuad_neg]; rfl

/-! ### f shell: proofs go through the integer-coefficient cubics g_i = n_i f_i, `rotF j i = n_j · rotG j i / n_i` -/

variable {r15 r10 r6 : K}

/-- f: the matrix built by the code is the matrix of the substitution for every orthogonal `S` -/
theorem f_expansion (h : FConst r15 r10 r6) (S : M3 K) (hS : Orth3 S) (i : Fin 7) (v : V3 K) :
    fFun r15 r10 r6 i (mulVec3 S v) = sum7 (fun j => fFun r15 r10 r6 j v * rotF r15 r10 r6 S j i) := by
  have t : ∀ j, fFun r15 r10 r6 j v * rotF r15 r10 r6 S j i = gFun j v * rotG S j i / nF r15 r10 r6 i := by
    intro j
    have := nF_ne h j
    rw [fFun_eq, rotF_eq]; field_simp
  rw [fFun_eq, gFun_expand S hS]
  simp only [sum7, t]
  ring

/-- f: composition law `A(S₂S₁) = A(S₁)A(S₂)` for orthogonal matrices -/
theorem f_composition (h : FConst r15 r10 r6) (S1 S2 : M3 K) (h1 : Orth3 S1) (h2 : Orth3 S2) (l i : Fin 7) :
    rotF r15 r10 r6 (mulM3 S2 S1) l i = sum7 (fun j => rotF r15 r10 r6 S1 l j * rotF r15 r10 r6 S2 j i) := by
  have t : ∀ j, rotF r15 r10 r6 S1 l j * rotF r15 r10 r6 S2 j i
      = nF r15 r10 r6 l * (rotG S1 l j * rotG S2 j i) / nF r15 r10 r6 i := by
    intro j
    have := nF_ne h j
    rw [rotF_eq, rotF_eq]; field_simp
  rw [rotF_eq, rotG_comp S1 S2 h1 h2]
  simp only [sum7, t]
  ring

/-- f: identity for the identity rotation -/
theorem f_identity (h : FConst r15 r10 r6) (j i : Fin 7) :
    rotF r15 r10 r6 (one3 : M3 K) j i = if j = i then 1 else 0 := by
  rw [rotF_eq, rotG_one]
  by_cases hji : j = i
  · subst hji; simp [nF_ne h j]
  · simp [hji]

/-- f: orthogonal for every orthogonal `S`, proper or improper: `AᵀA = 1` (and `AAᵀ = 1`), from the addition theorem
    for l = 3, whose kernel is invariant under `S`. -/
theorem f_orthogonal (h : FConst r15 r10 r6) (S : M3 K) (hS : Orth3 S) (i i' : Fin 7) :
    sum7 (fun j => rotF r15 r10 r6 S j i * rotF r15 r10 r6 S j i') = (if i = i' then 1 else 0) ∧
    sum7 (fun j => rotF r15 r10 r6 S i j * rotF r15 r10 r6 S i' j) = (if i = i' then 1 else 0) := by
  have hB := subst_orthogonal (fFun r15 r10 r6) (fFun_indep h) (mulVec3 S) (Matrix.of (rotF r15 r10 r6 S))
    (fun i x => (f_expansion h S hS i x).trans (sum7_eq_sum _))
    (fun x y => by rw [fFun_kernel h, fFun_kernel h, dotV_mulVec3 hS, dotV_mulVec3 hS, dotV_mulVec3 hS])
  have hC : (Matrix.of (rotF r15 r10 r6 S))ᵀ * Matrix.of (rotF r15 r10 r6 S) = 1 := mul_eq_one_comm.1 hB
  have cols := congrFun (congrFun hC i) i'
  have rows := congrFun (congrFun hB i) i'
  rw [Matrix.mul_apply, Matrix.one_apply, ← sum7_eq_sum] at cols rows
  exact ⟨cols, rows⟩

omit [CharZero K] in
/-- f is odd under inversion: `A(−S) = −A(S)` -/
theorem f_parity (S : M3 K) (j i : Fin 7) :
    rotF r15 r10 r6 (fun a b => -S a b) j i = -rotF r15 r10 r6 S j i := by
  fin_cases j <;> simp only [rotF, substCub_neg, coefZZZ, coefXZZ, coefYZZ, coefZXX, coefXYZ, coefXXX, coefYYY] <;> ring

/-- Every shell s, p, d, f: the matrix is orthogonal for every `S` with `S Sᵀ = 1`.
    (The s shell is the constant function 1, its matrix is the 1×1 matrix (1) for every `S`.) -/
theorem shells_orthogonal (hr : r3 * r3 = 3) (h : FConst r15 r10 r6) (S : M3 K) (hS : Orth3 S) :
    ((1 : K) * 1 = 1) ∧
    (∀ i i' : Fin 3, sum3 (fun j => rotP S j i * rotP S j i') = if i = i' then 1 else 0) ∧
    (∀ i i' : Fin 5, sum5 (fun j => rotD r3 S j i * rotD r3 S j i') = if i = i' then 1 else 0) ∧
    (∀ i i' : Fin 7, sum7 (fun j => rotF r15 r10 r6 S j i * rotF r15 r10 r6 S j i') = if i = i' then 1 else 0) :=
  ⟨one_mul 1, p_orthogonal S hS, d_orthogonal hr S hS, fun i i' => (f_orthogonal h S hS i i').1⟩

end shells

/-- non-vacuity: a Pythagorean rotation composed with a mirror is orthogonal (improper), and √3 exists in ℝ -/
example : Orth3 (fun a b => ([[3/5, 4/5, 0], [4/5, -3/5, 0], [0, 0, -1]] : List (List Rat)).getD a.val [] |>.getD b.val 0) := by
  unfold Orth3; decide +kernel
example : ∃ r3 : ℝ, r3 * r3 = 3 := ⟨Real.sqrt 3, Real.mul_self_sqrt (by norm_num)⟩
example : FConst (Real.sqrt 15) (Real.sqrt 10) (Real.sqrt 6) :=
  ⟨Real.mul_self_sqrt (by norm_num), Real.mul_self_sqrt (by norm_num), Real.mul_self_sqrt (by norm_num)⟩

/-! ## T3  hybrids  `M · A · Mᵀ` -/

section hybrids
variable {K : Type} [CommRing K] {h b : Type} [Fintype h] [Fintype b] [DecidableEq h] [DecidableEq b]

omit [DecidableEq b] in
/-- T3a.  If the rows of `M` are orthonormal (`M Mᵀ = 1`, asserted by the code for every hybrid) and the shell matrix
    `A₂` commutes with the projector `MᵀM` onto the hybrid subspace (= the subspace is invariant under the rotation),
    composing rotations composes the hybrid matrices. -/
theorem hybrid_multiplicative (M : Matrix h b K) (hM : M * Mᵀ = 1) (A1 A2 : Matrix b b K)
    (hc : A2 * (Mᵀ * M) = (Mᵀ * M) * A2) :
    (M * A1 * Mᵀ) * (M * A2 * Mᵀ) = M * (A1 * A2) * Mᵀ :=
  calc (M * A1 * Mᵀ) * (M * A2 * Mᵀ)
      = M * A1 * ((Mᵀ * M) * A2) * Mᵀ := by simp only [Matrix.mul_assoc]
    _ = M * A1 * (A2 * (Mᵀ * M)) * Mᵀ := by rw [hc]
    _ = M * (A1 * A2) * Mᵀ * (M * Mᵀ) := by simp only [Matrix.mul_assoc]
    _ = M * (A1 * A2) * Mᵀ := by rw [hM, Matrix.mul_one]

omit [Fintype h] in
/-- T3b.  identity for the identity -/
theorem hybrid_identity (M : Matrix h b K) (hM : M * Mᵀ = 1) : M * (1 : Matrix b b K) * Mᵀ = 1 := by
  rw [Matrix.mul_one, hM]

/-- T3c.  Under the hypotheses of T3a, if `A` is orthogonal the hybrid matrix is orthogonal. -/
theorem hybrid_orthogonal (M : Matrix h b K) (hM : M * Mᵀ = 1) (A : Matrix b b K) (hA : Aᵀ * A = 1)
    (hc : A * (Mᵀ * M) = (Mᵀ * M) * A) :
    (M * A * Mᵀ)ᵀ * (M * A * Mᵀ) = 1 := by
  have ht : (M * A * Mᵀ)ᵀ = M * Aᵀ * Mᵀ := by
    simp only [Matrix.transpose_mul, Matrix.transpose_transpose, Matrix.mul_assoc]
  rw [ht, hybrid_multiplicative M hM Aᵀ A hc, hA, hybrid_identity M hM]

omit [DecidableEq h] in
/-- T3d.  When `M` is square-orthogonal (`MᵀM = 1`: the hybrids span the whole of the shells used, e.g. sp3 = s⊕p)
    the invariance hypothesis holds for EVERY rotation. -/
theorem hybrid_full_span_commutes (M : Matrix h b K) (hM' : Mᵀ * M = 1) (A : Matrix b b K) :
    A * (Mᵀ * M) = (Mᵀ * M) * A := by
  rw [hM', Matrix.mul_one, Matrix.one_mul]

end hybrids

/-- non-vacuity: the sp3 hybrid matrix of the code (rows sp3-1..4, columns s, pz, px, py up to the code's shell order)
    has orthonormal rows AND columns, so T3a–c apply to it for every rotation (T3d) -/
def sp3M : Matrix (Fin 4) (Fin 4) ℚ :=
  !![1/2, 1/2, 1/2, 1/2; 1/2, -1/2, 1/2, -1/2; 1/2, -1/2, -1/2, 1/2; 1/2, 1/2, -1/2, -1/2]

example : sp3M * sp3Mᵀ = 1 ∧ sp3Mᵀ * sp3M = 1 := by
  have h : sp3M * sp3Mᵀ = 1 := by decide +kernel
  exact ⟨h, mul_eq_one_comm.1 h⟩

/-- T3e.  The executable model of `rot_orb` for hybrids is the matrix product of T3a–c. -/
theorem hybridRot_is_product {K : Type} [CommRing K] (h b : Nat) (M A : Nat → Nat → K) :
    (Matrix.of fun (i j : Fin h) => hybridRot b M A i j)
      = (Matrix.of fun (i : Fin h) (k : Fin b) => M i k) * (Matrix.of fun (k l : Fin b) => A k l)
        * (Matrix.of fun (i : Fin h) (k : Fin b) => M i k)ᵀ := by
  ext i j
  simp only [Matrix.of_apply, hybridRot, sumRange_eq_sum_fin, Matrix.mul_apply, Matrix.transpose_apply]
  rw [Finset.sum_comm]
  apply Finset.sum_congr rfl
  intro l _
  rw [Finset.sum_mul]

/-! ## T4  the Wannier representation matrix `Dwann.get_on_points` -/

/-- T4a.  A block-permutation matrix with unitary blocks and unimodular phases is unitary. -/
theorem dwann_unitary {K : Type} [CommRing K] [StarRing K] {ι : Type} [Fintype ι] [DecidableEq ι]
    {m : Type} [Fintype m] [DecidableEq m]
    (π : Equiv.Perm ι) (c : ι → K) (U : ι → Matrix m m K)
    (hc : ∀ i, star (c i) * c i = 1) (hU : ∀ i, (U i)ᴴ * U i = 1) :
    (Dblock π c U)ᴴ * Dblock π c U = 1 := by
  ext ⟨i, b⟩ ⟨i', b'⟩
  -- in column block `i` only the row block `π i` is occupied
  rw [Matrix.mul_apply, Fintype.sum_prod_type, Finset.sum_eq_single (π i) _ (fun h => absurd (Finset.mem_univ _) h)]
  · simp only [conjTranspose_apply, Dblock, if_true, π.injective.eq_iff, Matrix.one_apply, Prod.mk.injEq]
    by_cases hii : i' = i
    · subst hii
      have e : ∀ a, star (c i' * U i' a b) * (c i' * U i' a b') = star (c i') * c i' * ((U i')ᴴ b a * U i' a b') :=
        fun a => by rw [star_mul', conjTranspose_apply]; ring
      simp only [if_true, e, hc, one_mul, ← Matrix.mul_apply, hU, Matrix.one_apply, true_and]
    · simp [hii, Ne.symm hii]
  · intro j _ hj
    simp only [conjTranspose_apply, Dblock, if_neg (Ne.symm hj), star_zero, zero_mul, Finset.sum_const_zero]

/-- T4b.  Entry by entry the model of the code has the block form of `Dblock`: the block of columns of centre `i` sits in the block of
    rows of its image `atommap i` and carries `phase i · rot_orb i`. -/
theorem dwann_maps_centre_to_image {K : Type} [Mul K] [OfNat K 0] (m : Nat) (atm : Nat → Nat) (phase : Nat → K)
    (rot : Nat → Nat → Nat → K) (j i a b : Nat) (ha : a < m) (hb : b < m) :
    dwann m atm phase rot (j * m + a) (i * m + b) = if atm i = j then phase i * rot i a b else 0 := by
  have hm : 0 < m := by omega
  have e1 : (i * m + b) / m = i := by rw [Nat.add_comm, Nat.add_mul_div_right _ _ hm, Nat.div_eq_of_lt hb, Nat.zero_add]
  have e2 : (j * m + a) / m = j := by rw [Nat.add_comm, Nat.add_mul_div_right _ _ hm, Nat.div_eq_of_lt ha, Nat.zero_add]
  have e3 : (i * m + b) % m = b := by rw [Nat.add_comm, Nat.add_mul_mod_self_right, Nat.mod_eq_of_lt hb]
  have e4 : (j * m + a) % m = a := by rw [Nat.add_comm, Nat.add_mul_mod_self_right, Nat.mod_eq_of_lt ha]
  simp only [dwann, e1, e2, e3, e4]

/-! ## T5  local frames built from a user-given z axis (`read_xzaxis`, before normalisation) -/

/-- T5a.  For every z axis and every reference vector the frame of the code (x by Gram–Schmidt, y = z × x) is orthogonal. -/
theorem frame_orthogonal {K : Type} [CommRing K] (z b : V3 K) :
    dotV (perpCoplanar z b) z = 0 ∧ dotV (cross3 z (perpCoplanar z b)) z = 0 ∧
      dotV (cross3 z (perpCoplanar z b)) (perpCoplanar z b) = 0 := by
  refine ⟨?_, ?_, ?_⟩ <;> simp only [dotV, perpCoplanar, cross3, Fin.coe_ofNat_eq_mod, Nat.reduceMod] <;> ring

/-- T5b.  Its squared length is `|z × b|² |z|²` (Lagrange), so over ℝ it can be normalised exactly when z is not collinear
    with the reference - the admissibility condition the code tests. -/
theorem frame_x_norm {K : Type} [CommRing K] (z b : V3 K) :
    dotV (perpCoplanar z b) (perpCoplanar z b) = dotV (cross3 z b) (cross3 z b) * dotV z z := by
  simp only [dotV, perpCoplanar, cross3, Fin.coe_ofNat_eq_mod, Nat.reduceMod]; ring

/-- T5c.  The shortcut "z nearly along x: use the Cartesian y" breaks orthogonality: for z = (1, 1/125, 0) (0.46° off the
    x axis) it returns x = (0,1,0) with x·z = 1/125 ≠ 0, whereas the code's rule gives x·z = 0. -/
theorem frame_shortcut_not_orthogonal :
    let z : V3 Rat := fun a => match a.val with | 0 => 1 | 1 => 1 / 125 | _ => 0
    dotV (frameXShortcut z) z ≠ 0 ∧ dotV (frameX z) z = 0 ∧ dotV (frameX z) (frameX z) ≠ 0 := by
  decide +kernel

/-- non-vacuity of T5a/b: a generic z axis gives a non-zero x axis -/
example : dotV (frameX (fun a : Fin 3 => ((a.val : Int) : Rat) + 1)) (frameX (fun a : Fin 3 => ((a.val : Int) : Rat) + 1)) = 182 := by
  decide +kernel

end WB.C21
