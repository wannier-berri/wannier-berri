/-
  C16 — property theorems: results behave as vectors (element-wise +, −, scaling; void neutral), the symmetry
  transformation distributes over + and commutes with real scaling, band-resolved results add by concatenating
  k-points, dictionaries lift the operations key by key, and the saved form of an energy result loads back to
  the same energies, data, rank, transformations and comment.   `K` is any field, `σ` a ring endomorphism
  of it (complex conjugation on ℂ, the identity on ℝ) where linearity matters, any function elsewhere.
-/
import WB.Lemmas.C16

namespace WB.C16

variable {K : Type} [Field K]

/-! ## energy-resolved results: element-wise vector operations -/

/-- T1a (scaling): every other attribute is kept. -/
theorem eres_mul_spec (a : ERes K) (c : K) :
    (∀ t, (a.mul c).data t = a.data t * c) ∧ (a.mul c).energies = a.energies ∧ (a.mul c).shape = a.shape ∧
    (a.mul c).rank = a.rank ∧ (a.mul c).tTR = a.tTR ∧ (a.mul c).tInv = a.tInv ∧
    (a.mul c).smoothers = a.smoothers ∧ (a.mul c).comment = a.comment ∧ (a.mul c).titles = a.titles :=
  ⟨fun _ => rfl, rfl, rfl, rfl, rfl, rfl, rfl, rfl, rfl⟩

/-- T1b (division) `r / c` divides every element (the code multiplies by `1/c`). -/
theorem eres_div_data (a : ERes K) (c : K) (t : Nat → Nat) : (a.div c).data t = a.data t / c := by
  simp [ERes.div, ERes.mul, scaleData, div_eq_mul_inv]

/-- T1c (addition): element-wise, whenever defined; every other attribute listed is that of `a`. -/
theorem eres_add_spec (a b r : ERes K) (h : a.add b = .ok r) :
    (∀ t, r.data t = a.data t + b.data t) ∧ r.energies = a.energies ∧ r.shape = a.shape ∧ r.rank = a.rank ∧
    r.tTR = a.tTR ∧ r.tInv = a.tInv ∧ r.smoothers = a.smoothers ∧ r.titles = a.titles ∧
    (r.comment = a.comment ∨ r.comment = b.comment) := by
  obtain ⟨_, _, rfl⟩ := ERes.add_ok a b r h
  refine ⟨fun _ => rfl, rfl, rfl, rfl, rfl, rfl, rfl, rfl, ?_⟩
  simp only [ERes.addResult]
  split
  · left; rfl
  · right; rfl

/-- T1c' `a + b` is defined when the transformations do not clash, the energies agree (to 1e-8) and the
    smoothers are equal. -/
theorem eres_add_defined (a b : ERes K)
    (htr : transformsClash a.tTR b.tTR = false) (hti : transformsClash a.tInv b.tInv = false)
    (hE : ∀ i, i < a.energies.length →
      energiesDiffer (a.energies.getD i []) (b.energies.getD i []) = false ∧
      a.smoothers.getD i 0 = b.smoothers.getD i 0) :
    ∃ r, a.add b = .ok r := by
  refine ⟨_, ERes.add_eq_ok a b (by rw [transformsClashEither, htr, hti]; rfl) ?_⟩
  unfold energiesOrSmoothersDiffer
  rw [List.any_eq_false]
  intro i hi
  obtain ⟨h1, h2⟩ := hE i (List.mem_range.mp hi)
  rw [h1, h2, bne_self_eq_false]
  exact Bool.false_ne_true

/-- T1d (subtraction) `a − b = a + (−1)·b`, element-wise `a − b`. -/
theorem eres_sub_data (a b r : ERes K) (h : Res.sub (.energy a) (.energy b) = .ok (.energy r)) :
    a.add (b.mul (-1)) = .ok r ∧ ∀ t, r.data t = a.data t - b.data t := by
  have h' : (a.add (b.mul (-1))).map Res.energy = .ok (.energy r) := h
  cases hab : a.add (b.mul (-1)) with
  | error e => rw [hab] at h'; cases h'
  | ok r' =>
    rw [hab] at h'
    cases h'
    refine ⟨rfl, fun t => ?_⟩
    rw [(eres_add_spec a _ r hab).1 t, sub_eq_add_neg]
    exact congrArg _ (mul_neg_one (b.data t))

/-- T1e (distributivity over results). -/
theorem eres_mul_add (a b r : ERes K) (c : K) (h : a.add b = .ok r) :
    ∃ s, (a.mul c).add (b.mul c) = .ok s ∧ ∀ t, s.data t = (r.mul c).data t := by
  obtain ⟨h1, h2, rfl⟩ := ERes.add_ok a b r h
  exact ⟨_, ERes.add_eq_ok (a.mul c) (b.mul c) h1 h2, fun t => (add_mul _ _ c).symm⟩

/-- T1f (distributivity over scalars, unit, compatibility). -/
theorem eres_scalar_laws (a : ERes K) (c d : K) (t : Nat → Nat) :
    (a.mul (c + d)).data t = (a.mul c).data t + (a.mul d).data t ∧
    ((a.mul c).mul d).data t = (a.mul (c * d)).data t ∧
    (a.mul 1).data t = a.data t := by
  exact ⟨mul_add _ c d, mul_assoc _ c d, mul_one _⟩

/-- T1g (commutativity / associativity on data, whenever the sums are defined). -/
theorem eres_add_comm_data (a b r s : ERes K) (h1 : a.add b = .ok r) (h2 : b.add a = .ok s) (t : Nat → Nat) :
    r.data t = s.data t := by
  rw [(eres_add_spec a b r h1).1, (eres_add_spec b a s h2).1, add_comm]

theorem eres_add_assoc_data (a b c ab bc l r : ERes K) (h1 : a.add b = .ok ab) (h2 : ab.add c = .ok l)
    (h3 : b.add c = .ok bc) (h4 : a.add bc = .ok r) (t : Nat → Nat) : l.data t = r.data t := by
  rw [(eres_add_spec _ _ _ h2).1, (eres_add_spec _ _ _ h1).1, (eres_add_spec _ _ _ h4).1,
    (eres_add_spec _ _ _ h3).1, add_assoc]

/-- `mul_array`: multiplication by an array on some axes distributes over + -/
theorem eres_mulArray_add (a b r : ERes K) (w : Arr K) (axes : List Nat) (h : a.add b = .ok r) (t : Nat → Nat) :
    (r.mulArray w axes).data t = (a.mulArray w axes).data t + (b.mulArray w axes).data t := by
  show r.data t * _ = _
  rw [(eres_add_spec a b r h).1, add_mul]
  rfl

/-! ## the void result -/

/-- T2 (neutral element).  `Void + x = x`, `x + Void = x`, `x + 0 = x`, `x + None = x`. -/
theorem void_neutral (x : Res K) (a : ERes K) :
    Res.add .void (.res x) = .ok x ∧ Res.add x (.res .void) = .ok x ∧
    Res.add (.energy a) .zero = .ok (.energy a) ∧ Res.add (.energy a) .none = .ok (.energy a) := by
  refine ⟨rfl, ?_, rfl, rfl⟩
  cases x <;> rfl

/-- T2' the void result is absorbing for scaling and transformation, `Void − x = (−1)·x`, `x − Void = x`. -/
theorem void_absorbing (σ : K → K) (g : Sym K) (x : Res K) (c : K) :
    Res.mul (.void : Res K) c = .void ∧ Res.div (.void : Res K) c = .void ∧
    Res.transform σ g (.void : Res K) = .ok .void ∧
    Res.sub .void x = .ok (x.mul (-1)) ∧ Res.sub x .void = .ok x := by
  refine ⟨rfl, rfl, rfl, rfl, ?_⟩
  cases x <;> rfl

/-- T2'' (neutral on the right of k-resolved results and dictionaries, so that `sum([k₁, k₂, …])` works). -/
theorem void_neutral_right (a : KRes K) (d : RDict K) :
    a.addRhs .void = .ok a ∧ a.addRhs .zero = .ok a ∧ a.addRhs .none = .ok a ∧
    d.addRhs .void = .ok d ∧ d.addRhs .zero = .ok d ∧ d.addRhs .none = .ok d :=
  ⟨rfl, rfl, rfl, rfl, rfl, rfl⟩

omit [Field K] in
/-- `sum([k₁, k₂])` = `(0 + k₁) + k₂`, where `0 + k₁ = k₁.__radd__(0) = k₁ + 0`: the concatenation of the two -/
theorem kres_sum_two (a b r : KRes K) (h : a.add b = .ok r) :
    (a.addRhs .zero).bind (fun s => s.addRhs (.res b)) = .ok r := by
  simp only [KRes.addRhs, Except.bind]
  exact h

/-! ## symmetry transformation -/

/-- T3a.  `transform_tensor` is additive. -/
theorem transformTensor_add (σ : K →+* K) (g : Sym K) (dim rank : Nat) (tr ti : Transform) (A B : Arr K) :
    transformTensor σ g dim rank tr ti (addData A B)
      = addData (transformTensor σ g dim rank tr ti A) (transformTensor σ g dim rank tr ti B) :=
  (transformTensor_linear σ g dim rank tr ti).add A B

/-- T3b.  `transform_tensor` commutes with multiplication by every scalar fixed by the conjugation (every real
    number). -/
theorem transformTensor_smul (σ : K →+* K) (g : Sym K) (dim rank : Nat) (tr ti : Transform) (A : Arr K)
    (c : K) (hc : σ c = c) :
    transformTensor σ g dim rank tr ti (scaleData A c) = scaleData (transformTensor σ g dim rank tr ti A) c :=
  (transformTensor_linear σ g dim rank tr ti).smul A c hc

/-- T3c (energy results with the same transformations, shape and rank). -/
theorem eres_transform_add (σ : K →+* K) (g : Sym K) (a b r : ERes K) (tr ti : Transform)
    (ha : a.tTR = some tr) (hai : a.tInv = some ti) (hb : b.tTR = some tr) (hbi : b.tInv = some ti)
    (hshape : a.shape = b.shape) (hrank : a.rank = b.rank) (h : a.add b = .ok r) :
    ∃ a' b' r' s, a.transform σ g = .ok a' ∧ b.transform σ g = .ok b' ∧ r.transform σ g = .ok r' ∧
      a'.add b' = .ok s ∧ ∀ t, s.data t = r'.data t := by
  obtain ⟨h1, h2, rfl⟩ := ERes.add_ok a b r h
  refine ⟨_, _, _, _, ERes.transform_eq σ g ha hai, ERes.transform_eq σ g hb hbi,
    ERes.transform_eq σ g (a := a.addResult b) ha hai, ERes.add_eq_ok _ _ h1 h2, fun t => ?_⟩
  simp only [ERes.addResult, ← hshape, ← hrank, transformTensor_add]

/-- T3d.  `transform(c·a) = c·transform(a)` on the data, for real `c`. -/
theorem eres_transform_mul (σ : K →+* K) (g : Sym K) (a : ERes K) (tr ti : Transform) (c : K) (hc : σ c = c)
    (ha : a.tTR = some tr) (hai : a.tInv = some ti) :
    ∃ x y, (a.mul c).transform σ g = .ok x ∧ a.transform σ g = .ok y ∧ x.data = (y.mul c).data := by
  exact ⟨_, _, ERes.transform_eq σ g (a := a.mul c) ha hai, ERes.transform_eq σ g ha hai,
    transformTensor_smul σ g _ _ tr ti a.data c hc⟩

/-- the hypothesis "same transformations" of T3c is about ALL four attributes: `Transform.__eq__` (used by the
    guard of `+`) ignores `swap_axes`, so two transforms that differ only there pass the guard. -/
theorem transform_eq_ignores_swap :
    ∃ s t : Transform, s.eqv t = true ∧ s ≠ t :=
  ⟨⟨1, false, none, some (0, 1)⟩, ⟨1, false, none, none⟩, by decide, by decide⟩

/-! ## band-resolved results (`K__Result`) -/

/-- T4a.  `a + b` of k-resolved results concatenates their k-points. -/
theorem kres_add_data (a b r : KRes K) (h : a.add b = .ok r) (t : Nat → Nat) :
    r.data t = (if t 0 < a.nkTot then a.data t else b.data (upd t 0 (t 0 - a.nkTot))) ∧
    r.nkTot = a.nkTot + b.nkTot := by
  obtain ⟨-, rfl⟩ := KRes.add_ok h
  exact ⟨vstack_append _ _ t, nkSum_append _ _⟩

/-- T4b.  scaling acts on every element of every block. -/
theorem kres_mul_data (a : KRes K) (c : K) (t : Nat → Nat) :
    (a.mul c).data t = a.data t * c ∧ (a.mul c).nkTot = a.nkTot :=
  ⟨vstack_map_scale a.blocks c t, nkSum_map a.blocks _⟩

/-- T4c.  `a − b` is element-wise on the stacked data. -/
theorem kres_sub_data (a b r : KRes K) (h : a.sub b = .ok r) (t : Nat → Nat) (ht : t 0 < a.nkTot) :
    r.data t = a.data t - b.data t := by
  unfold KRes.sub at h
  split at h
  · cases h
  · cases h
    simp [KRes.data, vstack, ht, sub_eq_add_neg]

/-- T4d.  scaling distributes over `+` (block lists), and `+` stays defined. -/
theorem kres_mul_add (a b r : KRes K) (c : K) (h : a.add b = .ok r) :
    (a.mul c).add (b.mul c) = .ok (r.mul c) := by
  obtain ⟨hfit, rfl⟩ := KRes.add_ok h
  exact (if_pos hfit).trans (by simp [KRes.mul])

/-- T4e.  The transformation distributes over `+` for ANY `σ`: `+` concatenates blocks, no linearity is involved. -/
theorem kres_transform_add (σ : K → K) (g : Sym K) (a b r a' b' : KRes K) (h : a.add b = .ok r)
    (ha : a.transform σ g = .ok a') (hb : b.transform σ g = .ok b')
    (hdim : a.dim = b.dim) (hrank : a.rank = b.rank) (htr : a.tTR = b.tTR) (hti : a.tInv = b.tInv) :
    ∃ r', r.transform σ g = .ok r' ∧ a'.add b' = .ok r' := by
  obtain ⟨hfit, rfl⟩ := KRes.add_ok h
  obtain ⟨tr, ti, h1, h2, rfl⟩ := KRes.transform_ok ha
  obtain ⟨tr', ti', h1', h2', rfl⟩ := KRes.transform_ok hb
  obtain rfl : tr = tr' := Option.some.inj (h1.symm.trans (htr.trans h1'))
  obtain rfl : ti = ti' := Option.some.inj (h2.symm.trans (hti.trans h2'))
  refine ⟨_, by simp only [KRes.transform, h1, h2]; rfl, ?_⟩
  refine (if_pos hfit).trans ?_
  rw [← hdim, ← hrank, List.map_append, h1, h2]

/-! ## dictionaries of results -/

/-- T5a.  `ResultDict + ResultDict`: exactly the keys present in both, each entry the sum of the two entries. -/
theorem rdict_add_lookup (d e r : RDict K) (h : d.add e = .ok r) (k : String) :
    match d.lookup k, e.lookup k with
    | some x, some y => ∃ s, x.add (.res y) = .ok s ∧ r.lookup k = some s
    | _, _ => r.lookup k = none := by
  induction d generalizing r with
  | nil => cases h; rfl
  | cons kv rest ih =>
    obtain ⟨k0, v⟩ := kv
    have hc := RDict.add_cons_ok h
    rw [List.lookup_cons]
    cases hk : k == k0 with
    | false =>
      cases he : e.lookup k0 with
      | none => rw [he] at hc; exact ih r hc
      | some y =>
        rw [he] at hc
        obtain ⟨s, tl, -, htl, rfl⟩ := hc
        rw [List.lookup_cons, hk]
        exact ih tl htl
    | true =>
      obtain rfl : k = k0 := eq_of_beq hk
      cases he : e.lookup k with
      | none =>
        rw [he] at hc
        have := ih r hc
        rw [he] at this
        cases hd : List.lookup k rest <;> rw [hd] at this <;> exact this
      | some y =>
        rw [he] at hc
        obtain ⟨s, tl, hv, -, rfl⟩ := hc
        exact ⟨s, hv, by rw [List.lookup_cons, beq_self_eq_true]⟩

/-- T5b.  scaling a dictionary scales every entry. -/
theorem rdict_mul_lookup (d : RDict K) (c : K) (k : String) :
    (d.mul c).lookup k = (d.lookup k).map (fun x => x.mul c) := by
  induction d with
  | nil => rfl
  | cons kv rest ih =>
    obtain ⟨k0, v⟩ := kv
    have ih' : List.lookup k (List.map (fun kv => (kv.1, kv.2.mul c)) rest)
        = Option.map (fun x => x.mul c) (List.lookup k rest) := ih
    simp only [RDict.mul, List.map_cons, List.lookup_cons]
    cases (k == k0)
    · exact ih'
    · rfl

/-! ## saving and loading -/

omit [Field K] in
theorem collectEnergies_asDict (r : ERes K) (d : Dict K) (h : r.asDict = .ok d) (n : Nat)
    (hn : n ≤ r.energies.length) : collectEnergies d n = .ok (r.energies.take n) := by
  obtain ⟨-, -, -, -, -, -, -, -, -, -, -, hE⟩ := asDict_lookup r d h
  induction n with
  | zero => rfl
  | succ n ih =>
    have hlt : n < r.energies.length := by omega
    rw [collectEnergies, ih (by omega), hE, List.getElem?_eq_getElem hlt, List.take_add_one,
      List.getElem?_eq_getElem hlt]
    rfl

omit [Field K] in
/-- T6 (round trip `as_dict` → `from_npz`): everything comes back except the smoothers (void) and the save mode
    (default), see `ERes.loaded`. -/
theorem fromDict_asDict (r : ERes K) (d : Dict K) (h : r.asDict = .ok d)
    (htitles : r.titles.length = r.energies.length) :
    fromDict d = .ok (.energy r.loaded) := by
  have hcol : collectEnergies d r.titles.length = .ok r.energies := by
    rw [collectEnergies_asDict r d h r.titles.length (by omega), htitles, List.take_length]
  obtain ⟨tr, ti, htr, hti, htype, hT, hD, hR, hTR, hInv, hC, -⟩ := asDict_lookup r d h
  unfold fromDict
  simp only [htype, hT, hD, hR, hcol, transformFromDict, hTR, hInv, hC]
  simp only [ERes.loaded, mkTitles, ← htitles, le_refl, if_true, List.take_length, htr, hti]

omit [Field K] in
/-- T6' the void result round-trips to the void result. -/
theorem fromDict_void : fromDict (voidDict : Dict K) = .ok .void := rfl

/-- T6'' robustness of loading: a file without a comment gets "undocumented", without transformations `None`. -/
example : ∃ r, fromDict ([(.E_titles, .strs ["Efermi"]), (.data, .arr [2] (fun _ => (0 : Rat))), (.rank, .nat 0),
      (.energies 0, .reals [0, 1])] : Dict Rat) = .ok (.energy r) ∧
    r.comment = "undocumented" ∧ r.tTR = none ∧ r.tInv = none ∧ r.energies = [[0, 1]] :=
  ⟨_, rfl, rfl, rfl, rfl, rfl⟩

/-- the constructor's normalisation makes the hypothesis of T6 true: the titles always number the energies -/
theorem mkTitles_length (nE : Nat) (titles : List String) : (mkTitles nE titles).length = nE := by
  unfold mkTitles
  split
  · rw [List.length_take]; omega
  · rw [List.length_append, List.length_replicate]; omega

end WB.C16
