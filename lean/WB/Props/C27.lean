/-
  C27 — Berry-curvature sum rule: property theorems.

  Proved here, for every number of bands, every Hermitian velocity matrix, every real spectrum (degenerate or not),
  every field with a conjugation (ℂ, ℚ(i), …) and every grouping of the bands into blocks:
    T1  D_H is anti-Hermitian                                   (`D_antihermitian`)
    T2  the internal Berry-curvature terms A→B and B→A cancel   (`omega_pair_cancel`)
    T3  summed over any partition of all bands the internal Berry curvature vanishes (`omega_sum_rule`,
        `omega_sum_rule_get_borders` for the groups the code really builds)
    T4  hence a Fermi-sea integral of it with the Fermi level above all bands is zero (`ahc_internal_zero_above_bands`)
  and, around them: the groups of a Fermi-sea calculator, the external terms, `dEig_inv` on large grids, k.p velocity
  matrices.  `IsPartition` is defined in `Lemmas/C27Sea.lean`.
  NOT proved (oracle only, see harness/props/c27.py): quantisation of AHC·c in units of e²/h for gapped 2D models —
  that is topology plus quadrature error, not bookkeeping.  The claim is labelled partial for that reason.
-/
import WB.Lemmas.C27Sums
import WB.Lemmas.C27Sea
import WB.Lemmas.C04Expr
import Mathlib.Data.Complex.Basic

namespace WB.C27
open Finset

/-! ## T1: `D_H` is anti-Hermitian -/

theorem selRat_symm (E : ℕ → ℚ) (thr : ℚ) (n l : ℕ) : selRat E thr n l = selRat E thr l n := by
  unfold selRat; exact Bool.and_comm _ _

section field
variable {K : Type} [Field K] [StarRing K]

omit [StarRing K] in
theorem dEigInv_antisymm (E : ℕ → K) (sel : ℕ → ℕ → Bool) (hsel : ∀ n l, sel n l = sel l n) (n l : ℕ) :
    dEigInv E sel l n = -dEigInv E sel n l := by
  unfold dEigInv
  rw [hsel l n]
  split
  · simp
  · rw [← neg_sub (E n) (E l), inv_neg]

/-- **T1.**  Hermitian velocity matrix, real energies, symmetric degeneracy mask: `D_H = -V·dEig_inv` is anti-Hermitian. -/
theorem D_antihermitian (V : ℕ → ℕ → ℕ → K) (E : ℕ → K) (sel : ℕ → ℕ → Bool)
    (hV : ∀ n l a, star (V n l a) = V l n a) (hE : ∀ n, star (E n) = E n)
    (hsel : ∀ n l, sel n l = sel l n) (n l a : ℕ) :
    star (DH V E sel l n a) = -DH V E sel n l a := by
  unfold DH
  rw [star_mul', star_neg, hV, dEigInv_star E sel hE, dEigInv_antisymm E sel hsel n l, mul_neg]

/-- the hypotheses of T1 are met by the rational mask used by the driver -/
example (E : ℕ → ℚ) (thr : ℚ) : ∀ n l, selRat E thr n l = selRat E thr l n := selRat_symm E thr

/-! ## T2: pair cancellation -/

theorem pairTerm_antisymm (I : K) (D : ℕ → ℕ → ℕ → K) (hI : star I = -I)
    (hD : ∀ n l a, star (D l n a) = -D n l a) (c n l : ℕ) :
    pairTerm I D c n l + pairTerm I D c l n = 0 := by
  unfold pairTerm
  simp only [star_mul', star_neg, hI, hD]
  ring

/-- not a corollary of `pairTerm_antisymm`: `2 ≠ 0` is not assumed -/
theorem pairTerm_diag (I : K) (D : ℕ → ℕ → ℕ → K) (hI : star I = -I)
    (hD : ∀ n l a, star (D l n a) = -D n l a) (c n : ℕ) :
    pairTerm I D c n n = 0 := by
  unfold pairTerm
  simp only [star_mul', star_neg, hI, hD]
  ring

theorem pairTerm_star (I : K) (D : ℕ → ℕ → ℕ → K) (c n l : ℕ) :
    star (pairTerm I D c n l) = pairTerm I D c n l := by
  unfold pairTerm; rw [star_add, star_star, add_comm]

theorem star_list_sum_fixed (l : List ℕ) (f : ℕ → K) (h : ∀ x, star (f x) = f x) :
    star (l.map f).sum = (l.map f).sum := by
  rw [star_list_sum, List.map_map]
  exact congrArg List.sum (List.map_congr_left fun x _ => h x)

/-- the trace is self-conjugate, so the `.real` taken by `Formula_ln.trace` discards nothing -/
theorem omegaTrace_real (I : K) (D : ℕ → ℕ → ℕ → K) (inn out : List ℕ) (c : ℕ) :
    star (omegaTrace star I D inn out c) = omegaTrace star I D inn out c := by
  rw [omegaTrace_eq]
  apply star_list_sum_fixed
  intro n
  apply star_list_sum_fixed
  intro l
  exact pairTerm_star I D c n l

/-- **T2.**  The internal term of `A` traced against `B` and that of `B` traced against `A` cancel (disjoint sets in the code). -/
theorem omega_pair_cancel (I : K) (D : ℕ → ℕ → ℕ → K) (hI : star I = -I)
    (hD : ∀ n l a, star (D l n a) = -D n l a) (A B : List ℕ) (hA : A.Nodup) (hB : B.Nodup) (c : ℕ) :
    omegaTrace star I D A B c + omegaTrace star I D B A c = 0 := by
  rw [omegaTrace_finset I D A B c hA hB, omegaTrace_finset I D B A c hB hA]
  exact sum_pair_antisymm _ _ _ (pairTerm_antisymm I D hI hD c)

/-! ## T3: the sum rule over any partition of the bands -/

/-- **T3.**  Over any partition of all `N` bands the internal Berry curvature of the blocks, each traced against all bands
    outside it as `Formula_ln.trace(ik, inn, out)` is called by the calculators, sums to zero. -/
theorem omega_sum_rule (I : K) (D : ℕ → ℕ → ℕ → K) (hI : star I = -I)
    (hD : ∀ n l a, star (D l n a) = -D n l a) (N : ℕ) (blocks : List (ℕ × ℕ))
    (hP : IsPartition N blocks) (c : ℕ) :
    omegaBlocks star I D N blocks c = 0 := by
  unfold omegaBlocks
  have hblock : ∀ ab ∈ blocks,
      omegaTrace star I D (blockInn ab.1 ab.2) (blockOut ab.1 ab.2 N) c
        = ∑ n ∈ Finset.Ico ab.1 ab.2, ∑ l ∈ Finset.range N \ Finset.Ico ab.1 ab.2, pairTerm I D c n l := by
    intro ab hab
    obtain ⟨h1, h2⟩ := hP.le ab hab
    rw [omegaTrace_finset I D _ _ c (blockInn_nodup _ _) (blockOut_nodup _ _ _ h1),
      blockInn_toFinset, blockOut_toFinset _ _ _ h1 h2]
  rw [List.map_congr_left hblock, ← List.sum_toFinset _ hP.nodup]
  exact sum_partition_antisymm blocks.toFinset (fun ab => Finset.Ico ab.1 ab.2) (Finset.range N)
    (fun ab hab cd hcd j h1 h2 => hP.unique ab (List.mem_toFinset.1 hab) cd (List.mem_toFinset.1 hcd) j
      (Finset.mem_Ico.1 h1).1 (Finset.mem_Ico.1 h1).2 (Finset.mem_Ico.1 h2).1 (Finset.mem_Ico.1 h2).2)
    (fun ab hab j hj => Finset.mem_range.2 ((Finset.mem_Ico.1 hj).2.trans_le (hP.le ab (List.mem_toFinset.1 hab)).2))
    (fun j hj => (hP.cover j (Finset.mem_range.1 hj)).imp fun ab h => ⟨List.mem_toFinset.2 h.1, Finset.mem_Ico.2 h.2⟩)
    _ (pairTerm_antisymm I D hI hD c) (pairTerm_diag I D hI hD c)

/-- the single-band grouping (what `evaluate_k` tabulates for a non-degenerate spectrum) is a partition -/
theorem singles_isPartition (N : ℕ) : IsPartition N ((List.range N).map fun n => (n, n + 1)) :=
  IsPartition.of_ordered (List.pairwise_map.2 (List.pairwise_lt_range.imp Nat.succ_le_of_lt))
    (fun ab hab => by obtain ⟨n, -, rfl⟩ := List.mem_map.1 hab; exact Nat.lt_succ_self n)
    (fun ab hab => by obtain ⟨n, hn, rfl⟩ := List.mem_map.1 hab; exact Nat.succ_le_of_lt (List.mem_range.1 hn))
    (fun j hj => ⟨(j, j + 1), List.mem_map.2 ⟨j, List.mem_range.2 hj, rfl⟩, le_rfl, Nat.lt_succ_self j⟩)

/-- the groups built by `get_borders` (any threshold; Kramers pairs with an even number of bands) -/
theorem get_borders_isPartition (Eb : ℕ → ℚ) (th : ℚ) (N : ℕ) (kr : Bool) (hN : 0 < N)
    (hk : kr = true → N % 2 = 0) : IsPartition N (WB.C15.blocks Eb th N kr) :=
  IsPartition.of_ordered (blocks_ordered Eb th N kr) (fun _ h => (blocks_lt_le h).1) (fun _ h => (blocks_lt_le h).2)
    fun j hj => by
      obtain ⟨ab, hab, h, _⟩ := WB.C15.blocks_partition Eb th N kr hN hk j hj
      exact ⟨ab, hab, h⟩

/-- **T3 for the code's own grouping.** -/
theorem omega_sum_rule_get_borders (I : K) (D : ℕ → ℕ → ℕ → K) (hI : star I = -I)
    (hD : ∀ n l a, star (D l n a) = -D n l a) (Eb : ℕ → ℚ) (th : ℚ) (N : ℕ) (kr : Bool) (hN : 0 < N)
    (hk : kr = true → N % 2 = 0) (c : ℕ) :
    omegaBlocks star I D N (WB.C15.blocks Eb th N kr) c = 0 :=
  omega_sum_rule I D hI hD N _ (get_borders_isPartition Eb th N kr hN hk) c

/-- **T1 + T3** on the code's inputs. -/
theorem omega_sum_rule_DH (I : K) (hI : star I = -I) (V : ℕ → ℕ → ℕ → K) (E : ℕ → K) (sel : ℕ → ℕ → Bool)
    (hV : ∀ n l a, star (V n l a) = V l n a) (hE : ∀ n, star (E n) = E n)
    (hsel : ∀ n l, sel n l = sel l n) (N : ℕ) (blocks : List (ℕ × ℕ)) (hP : IsPartition N blocks) (c : ℕ) :
    omegaBlocks star I (DH V E sel) N blocks c = 0 :=
  omega_sum_rule I _ hI (D_antihermitian V E sel hV hE hsel) N blocks hP c


/-! ## T4: Fermi level above all bands -/

/-- **T4.**  With the Fermi level above every band (all blocks of every k-point counted with the same weight) the
    internal AHC is zero. -/
theorem ahc_internal_zero_above_bands (I : K) (hI : star I = -I) (fac : K) (N : ℕ)
    (ks : List ((ℕ → ℕ → ℕ → K) × List (ℕ × ℕ)))
    (hks : ∀ kd ∈ ks, (∀ n l a, star (kd.1 l n a) = -kd.1 n l a) ∧ IsPartition N kd.2) (c : ℕ) :
    ahcAbove star I fac N ks c = 0 := by
  unfold ahcAbove
  rw [List.sum_eq_zero, mul_zero]
  intro x hx
  obtain ⟨kd, hkd, rfl⟩ := List.mem_map.1 hx
  exact omega_sum_rule I kd.1 hI (hks kd hkd).1 N kd.2 (hks kd hkd).2 c


/-! ## the band groups of a Fermi-sea calculator are a partition (because of the clamp) -/

theorem seaGroups_nil {E : ℕ → ℚ} {th : ℚ} {n : ℕ} {kr : Bool} {emin emax : ℚ}
    (h : WB.C15.bandsInRange E th n kr emin emax = []) :
    seaGroups E th n kr emin emax
      = (if belowRange E emin n > 0 then [(0, belowRange E emin n)] else []) := by
  unfold seaGroups; simp only [h, List.append_nil]

theorem seaGroups_cons {E : ℕ → ℚ} {th : ℚ} {n : ℕ} {kr : Bool} {emin emax : ℚ} {hd : ℕ × ℕ} {t : List (ℕ × ℕ)}
    (h : WB.C15.bandsInRange E th n kr emin emax = hd :: t) :
    seaGroups E th n kr emin emax
      = (if min (belowRange E emin n) hd.1 > 0 then [(0, min (belowRange E emin n) hd.1)] else []) ++ hd :: t := by
  unfold seaGroups; simp only [h]

/-- `get_bands_in_range_groups_ik(sea=True)`: the groups of `get_borders` that reach into `[emin, emax]` plus ONE lumped
    block `(0, bandmax)`, `bandmax` clamped to the start of the first group in range.  With `emax` above all bands they
    partition the bands, also when a (near-)degenerate group straddles `emin`. -/
theorem sea_groups_isPartition (E : ℕ → ℚ) (th : ℚ) (n : ℕ) (kr : Bool) (emin emax : ℚ)
    (hn : 0 < n) (hk : kr = true → n % 2 = 0)
    (hsorted : ∀ i j, i ≤ j → j < n → E i ≤ E j) (hmax : ∀ i, i < n → E i ≤ emax) :
    IsPartition n (seaGroups E th n kr emin emax) := by
  have hB := get_borders_isPartition E th n kr hn hk
  have hP := mem_bandsInRange_iff_last E th n kr emin emax hsorted hmax
  have hS : (WB.C15.bandsInRange E th n kr emin emax).Pairwise (fun x y => x.2 ≤ y.1) :=
    (blocks_ordered E th n kr).sublist List.filter_sublist
  generalize hin : WB.C15.bandsInRange E th n kr emin emax = S at hP hS
  have hlt : ∀ ab ∈ S, ab.1 < ab.2 ∧ ab.2 ≤ n := fun ab h => blocks_lt_le ((hP ab).1 h).1
  obtain ⟨hm1, hm2, -⟩ := belowRange_spec E emin n
  -- a band whose block is not in range lies below `emin`, and outside every group in range
  have hcover : ∀ j, j < n → (E j < emin ∧ ∀ cd ∈ S, cd.1 ≤ j → cd.2 ≤ j) ∨ ∃ ab ∈ S, ab.1 ≤ j ∧ j < ab.2 := by
    intro j hj
    obtain ⟨ab, hab, h1, h2⟩ := hB.cover j hj
    by_cases hc : ab ∈ S
    · exact Or.inr ⟨ab, hc, h1, h2⟩
    · obtain ⟨hlt, hle⟩ := blocks_lt_le hab
      refine Or.inl ⟨lt_of_not_ge fun h => hc ((hP ab).2 ⟨hab, h.trans (hsorted j _ (Nat.le_sub_one_of_lt h2)
        (Nat.sub_one_lt_of_le (Nat.zero_lt_of_lt hlt) hle))⟩), fun cd hcd h3 => le_of_not_gt fun h4 => hc ?_⟩
      rwa [hB.unique ab hab cd ((hP cd).1 hcd).1 j h1 h2 h3 h4]
  cases S with
  | nil =>
    rw [seaGroups_nil hin, ← List.append_nil (ite _ _ _)]
    refine IsPartition.lump_front List.Pairwise.nil (fun _ h => nomatch h) (fun _ h => nomatch h) hm1
      (fun _ h => nomatch h) fun j hj => (hcover j hj).imp_left fun h => hm2 j hj h.1
  | cons hd t =>
    have hhd : hd ∈ hd :: t := List.mem_cons_self
    rw [seaGroups_cons hin]
    refine IsPartition.lump_front hS (fun ab h => (hlt ab h).1) (fun ab h => (hlt ab h).2)
      ((min_le_right _ _).trans ((hlt hd hhd).1.le.trans (hlt hd hhd).2))
      (fun ab h => (min_le_right _ _).trans (head_le_of_ordered hS (hlt hd hhd).1 ab h)) fun j hj => ?_
    refine (hcover j hj).imp_left fun ⟨hE, hout⟩ => lt_min (hm2 j hj hE) (lt_of_not_ge fun h => ?_)
    -- otherwise `j` lies behind `hd`, whose last band reaches `emin`
    exact absurd (((hP hd).1 hhd).2.trans (hsorted _ j ((Nat.sub_le _ _).trans (hout hd hhd h)) hj)) (not_le.2 hE)

/-- **T3 for the groups a Fermi-sea calculator traces** (lumped block included). -/
theorem omega_sum_rule_sea (I : K) (D : ℕ → ℕ → ℕ → K) (hI : star I = -I)
    (hD : ∀ n l a, star (D l n a) = -D n l a) (Eb : ℕ → ℚ) (th : ℚ) (N : ℕ) (kr : Bool) (emin emax : ℚ)
    (hN : 0 < N) (hk : kr = true → N % 2 = 0)
    (hsorted : ∀ i j, i ≤ j → j < N → Eb i ≤ Eb j) (hmax : ∀ i, i < N → Eb i ≤ emax) (c : ℕ) :
    omegaBlocks star I D N (seaGroups Eb th N kr emin emax) c = 0 :=
  omega_sum_rule I D hI hD N _ (sea_groups_isPartition Eb th N kr emin emax hN hk hsorted hmax) c

/-- the clamp is needed: two bands 5·10⁻⁵ apart (one group for `degen_thresh = 10⁻⁴`), lowest Fermi level between
    them.  With the clamp the groups are `(0,2),(2,3)`; without it band 0 is in `(0,1)` AND in `(0,2)`. -/
theorem sea_groups_without_clamp_overlap :
    let E := WB.C15.ofList [0, 1/20000, 3/2]
    seaGroups E (1/10000) 3 false (1/50000) 30 = [(0, 2), (2, 3)] ∧
    seaGroupsNoClamp E (1/10000) 3 false (1/50000) 30 = [(0, 1), (0, 2), (2, 3)] := by
  decide +kernel


/-! ## the full Berry curvature (with external terms): gauge invariant block by block, but no sum rule -/

open WB.C04 in
/-- `Omega` with internal AND external terms (`WB.C04.omegaE`), traced over each entry of a list of blocks and summed, is
    unchanged by a gauge change among states of exactly equal energy inside each block and, independently, outside it. -/
theorem omega_total_gauge_invariant (I half : K) (dei : K → K → K) (int ext : Bool) (oo : String) (c : ℕ)
    (blocks : List ((env : BEnv K) × Gauge env × (String → ℕ → List ℕ → Side → Side → ℕ → ℕ → K)))
    (hatom : ∀ b ∈ blocks, ∀ name der cs r c', toMat (b.1.dim r) (b.1.dim c') (b.2.2 name der cs r c')
      = cj (b.2.1.U r) (b.2.1.U c') (toMat (b.1.dim r) (b.1.dim c') (b.1.blk name der cs r c'))) :
    (blocks.map fun b => traceM (b.1.dim .inn)
        ((omegaE I half dei int ext oo [c] .inn).eval star { b.1 with blk := b.2.2 })).sum
      = (blocks.map fun b => traceM (b.1.dim .inn) ((omegaE I half dei int ext oo [c] .inn).eval star b.1)).sum :=
  congrArg List.sum (List.map_congr_left fun b hb => trace_sound b.1 b.2.1 b.2.2 (hatom b hb) _)

open WB.C04 in
/-- the external terms obey NO sum rule: one band, nothing outside, `rotAA = 1` — the external Berry curvature
    summed over all bands is `½·1 + conj(½·1) = 1 ≠ 0` (it is the trace of `curl A^W`, a property of the Wannier
    functions, not of the Hamiltonian) -/
theorem external_terms_no_sum_rule :
    let env : BEnv GRat := ⟨fun s => match s with | .inn => 1 | .out => 0,
      fun name _ _ _ _ _ _ => if name = "rotAA" then ⟨1, 0⟩ else ⟨0, 0⟩, fun _ _ => ⟨0, 0⟩⟩
    traceM 1 ((omegaE GRat.I ⟨1/2, 0⟩ (deiG (1/10)) false true "rotAA" [2] .inn).eval GRat.conj env) = ⟨1, 0⟩ := by
  decide +kernel


end field

/-! ## `dEig_inv` at every k-point, whatever the size of the grid

  `dEigInvAllK` is `Data_K.dEig_inv`; `dEigInvBlocks` is the same array filled in blocks of `nb` k-points, as a
  memory-saving rewrite would do it. -/

theorem dEigInv_all_k {K : Type} [Field K] (E : ℕ → ℕ → K) (sel : ℕ → ℕ → ℕ → Bool) (nk ik n l : ℕ) (h : ik < nk) :
    dEigInvAllK E sel nk ik n l = dEigInv (E ik) (sel ik) n l := by
  unfold dEigInvAllK; rw [if_pos h]

/-- `⌈nk/nb⌉` blocks cover the grid … -/
theorem dEigInv_blocks_ceil {K : Type} [Field K] (E : ℕ → ℕ → K) (sel : ℕ → ℕ → ℕ → Bool) (nb nk ik n l : ℕ)
    (hnb : 0 < nb) (h : ik < nk) :
    dEigInvBlocks E sel ((nk + nb - 1) / nb) nb nk ik n l = dEigInvAllK E sel nk ik n l := by
  unfold dEigInvBlocks dEigInvAllK
  -- `ik + nb ≤ nk + nb - 1`, so the quotient of `ik` is strictly below the number of blocks
  have : ik / nb < (nk + nb - 1) / nb :=
    calc ik / nb < ik / nb + 1 := Nat.lt_succ_self _
      _ = (ik + nb) / nb := (Nat.add_div_right ik hnb).symm
      _ ≤ (nk + nb - 1) / nb := Nat.div_le_div_right (Nat.le_sub_one_of_lt (Nat.add_lt_add_right h nb))
  rw [if_pos ⟨h, (Nat.div_lt_iff_lt_mul hnb).1 this⟩, if_pos h]

/-- … `max(nk // nb, 1)` blocks do not: with `nb = 1024`, `nk = 1025` the last k-point keeps `dEig_inv = 0` -/
theorem dEigInv_blocks_floor_truncates :
    let E : ℕ → ℕ → ℚ := fun _ b => b
    let sel : ℕ → ℕ → ℕ → Bool := fun _ n l => n == l
    dEigInvBlocks E sel (max (1025 / 1024) 1) 1024 1025 1024 1 0 = 0 ∧ dEigInvAllK E sel 1025 1024 1 0 = 1 := by
  decide +kernel


/-! ## Hermitian part vs symmetric part of the velocity matrix (k.p models) -/

section hermitian_part
variable {K : Type} [Field K] [StarRing K]

theorem hermitize_of_hermitian (half : K) (hhalf : half * (1 + 1) = 1) (X : ℕ → ℕ → K)
    (hX : ∀ i j, star (X j i) = X i j) (i j : ℕ) : hermitize star half X i j = X i j := by
  unfold hermitize
  rw [hX i j]
  exact half_add_self hhalf _

omit [StarRing K] in
theorem symmetrize_eq_iff (half : K) (hhalf : half * (1 + 1) = 1) (X : ℕ → ℕ → K) :
    (∀ i j, symmetrize half X i j = X i j) ↔ ∀ i j, X j i = X i j :=
  forall₂_congr fun i j => half_mul_add_eq_iff hhalf (X i j) (X j i)

/-- the symmetric part of a Hermitian `X` is `X` iff the imaginary (σ_y-like) inter-band elements vanish -/
theorem symmetrize_hermitian_eq_iff_real (half : K) (hhalf : half * (1 + 1) = 1) (X : ℕ → ℕ → K)
    (hX : ∀ i j, star (X j i) = X i j) :
    (∀ i j, symmetrize half X i j = X i j) ↔ ∀ i j, star (X i j) = X i j := by
  rw [symmetrize_eq_iff half hhalf]
  constructor
  · intro h i j
    calc star (X i j) = star (X j i) := by rw [h i j]
      _ = X i j := hX i j
  · intro h i j
    calc X j i = star (X j i) := (h j i).symm
      _ = X i j := hX i j

theorem symmetrize_real (half : K) (hh : star half = half) (X : ℕ → ℕ → K) (hX : ∀ i j, star (X j i) = X i j)
    (i j : ℕ) : star (symmetrize half X i j) = symmetrize half X i j := by
  unfold symmetrize
  rw [star_mul', star_add, hh, hX j i, hX i j, add_comm]

theorem DH_real (V : ℕ → ℕ → ℕ → K) (E : ℕ → K) (sel : ℕ → ℕ → Bool)
    (hV : ∀ n l a, star (V n l a) = V n l a) (hE : ∀ n, star (E n) = E n) (n l a : ℕ) :
    star (DH V E sel n l a) = DH V E sel n l a := by
  unfold DH
  rw [star_mul', star_neg, hV, dEigInv_star E sel hE]

/-- for real `D` (`DH_real`) `-i D_nl D_ln + c.c. = 0`: dropping the imaginary inter-band velocity elements (the `d_y σ_y`
    part of a two-band model `d(k)·σ`) kills the curvature and with it the Chern number -/
theorem omega_zero_of_real_D (I : K) (hI : star I = -I) (D : ℕ → ℕ → ℕ → K)
    (hD : ∀ n l a, star (D n l a) = D n l a) (inn out : List ℕ) (c : ℕ) :
    omegaTrace star I D inn out c = 0 := by
  have hp : ∀ n l, pairTerm I D c n l = 0 := fun n l => by
    unfold pairTerm
    rw [star_mul', star_mul', star_neg, hI, hD, hD]
    ring
  rw [omegaTrace_eq]
  simp only [hp, List.map_const', List.sum_replicate, smul_zero]

end hermitian_part

/-- the velocity matrix `∂H/∂k_y = σ_y` of `k_x σ_x + k_y σ_y + m σ_z` is wiped out by `0.5 (X + Xᵀ)` -/
theorem symmetrize_kills_sigma_y :
    let sy : ℕ → ℕ → GRat := fun i j => if i = 0 ∧ j = 1 then ⟨0, -1⟩ else if i = 1 ∧ j = 0 then ⟨0, 1⟩ else ⟨0, 0⟩
    (∀ i ∈ List.range 2, ∀ j ∈ List.range 2, hermitize GRat.conj ⟨1/2, 0⟩ sy i j = sy i j) ∧
    (∀ i ∈ List.range 2, ∀ j ∈ List.range 2, symmetrize ⟨1/2, 0⟩ sy i j = ⟨0, 0⟩) ∧ sy 0 1 ≠ ⟨0, 0⟩ := by
  decide +kernel

/-- two bands, `V^x = σ_x`, `V^y = σ_y`, energies ∓1: Berry curvature ∓1/2; 0 once `V^y` is replaced by its symmetric part -/
example :
    let Vgood : ℕ → ℕ → ℕ → GRat := fun n l a =>
      if a = 0 then (if n ≠ l ∧ n < 2 ∧ l < 2 then ⟨1, 0⟩ else ⟨0, 0⟩)
      else if a = 1 then (if n = 0 ∧ l = 1 then ⟨0, -1⟩ else if n = 1 ∧ l = 0 then ⟨0, 1⟩ else ⟨0, 0⟩) else ⟨0, 0⟩
    let Vbad : ℕ → ℕ → ℕ → GRat := fun n l a => if a = 1 then symmetrize ⟨1/2, 0⟩ (fun i j => Vgood i j 1) n l else Vgood n l a
    let E : ℕ → GRat := fun n => if n = 0 then ⟨-1, 0⟩ else ⟨1, 0⟩
    let sel : ℕ → ℕ → Bool := fun n l => n == l
    omegaTrace GRat.conj GRat.I (DH Vgood E sel) [0] [1] 2 = ⟨-1/2, 0⟩ ∧
    omegaTrace GRat.conj GRat.I (DH Vbad E sel) [0] [1] 2 = ⟨0, 0⟩ := by
  decide +kernel

/-! ## non-vacuity -/

/-- the hypotheses on the scalar field are met by the complex numbers with `I = Complex.I` -/
example (D : ℕ → ℕ → ℕ → ℂ) (hD : ∀ n l a, star (D l n a) = -D n l a) (N c : ℕ) :
    omegaBlocks star Complex.I D N ((List.range N).map fun n => (n, n + 1)) c = 0 :=
  omega_sum_rule Complex.I D (by simp) hD N _ (singles_isPartition N) c

/-- 3 bands at Gaussian rationals: Hermitian `V`, a doublet block and a single band; each block has a non-zero internal
    Berry curvature, the two add up to zero -/
def exV : ℕ → ℕ → ℕ → GRat := mkV
  [[1, 0, 2,   1, 2, 0,   0, 1, 1], [1, 2, 0,   -1, 1, 0,   2, 0, 1], [0, 1, 1,   2, 0, 1,   0, 3, 1]]
  [[0, 0, 0,   1, -1, 2,  2, 0, -1], [-1, 1, -2,  0, 0, 0,   1, 1, 0], [-2, 0, 1,  -1, -1, 0,  0, 0, 0]]
def exE : ℕ → ℚ := fun i => [0, 0, 2].getD i 0
def exD : ℕ → ℕ → ℕ → GRat := DH exV (fun i => GRat.ofRat (exE i)) (selRat exE (1/10))

example : ∀ n ∈ List.range 3, ∀ l ∈ List.range 3, ∀ a ∈ List.range 3, GRat.conj (exV n l a) = exV l n a := by
  decide +kernel
example : omegaTrace GRat.conj GRat.I exD [0, 1] [2] 1 = ⟨3/2, 0⟩ ∧
          omegaTrace GRat.conj GRat.I exD [2] [0, 1] 1 = ⟨-3/2, 0⟩ ∧
          omegaBlocks GRat.conj GRat.I exD 3 [(0, 2), (2, 3)] 1 = ⟨0, 0⟩ := by decide +kernel

end WB.C27
