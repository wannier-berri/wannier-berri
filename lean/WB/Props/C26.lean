/-
  C26 — system interpolation reproduces its endpoints and is affine: property theorems.

  `K` any field; `χ : Vec3 → K` ANY function of the lattice vector (Bloch phases, and phases times components of
  `R`, are instances: every k-space matrix and every k-derivative is a combination of such sums and of the shifts).
-/
import WB.Lemmas.C26Embed
import Mathlib.Algebra.BigOperators.Group.Finset.Basic
import Mathlib.Data.List.Nodup

namespace WB.C26
open WB.C18 (Vec3 Name)

variable {K : Type} [Field K]

/-- T1.  Re-embedding a matrix into the union R-vector list preserves every k-space sum — for every order of the
    union list (it comes from a Python `set`), every pair of R lists without repetitions. -/
theorem embed_preserves (χ : Vec3 → K) (Rold Rnew : List Vec3) (X : Nat → Nat → K) (c : Nat)
    (hold : Rold.Nodup) (hnew : Rnew.Nodup) (hsub : ∀ R ∈ Rold, R ∈ Rnew) :
    blochSum χ Rnew (embed Rold Rnew X) c = blochSum χ Rold X c := by
  -- both sides are the sum over the R-vectors of `χ R *` (the entry of `X` at the place of `R` in `Rold`, 0 outside)
  classical
  have h1 := blochSum_eq_map χ Rnew (embed Rold Rnew X) c
    (fun R => χ R * if R ∈ Rold then X (Rold.idxOf R) c else 0) fun i hi => by simp only [embed, hi, true_and]
  have h2 := blochSum_eq_map χ Rold X c (fun R => χ R * if R ∈ Rold then X (Rold.idxOf R) c else 0) fun i hi => by
    rw [List.getD_eq_getElem Rold _ hi, if_pos (List.getElem_mem hi), hold.idxOf_getElem i hi]
  rw [h1, h2, ← List.sum_toFinset _ hnew, ← List.sum_toFinset _ hold]
  exact (Finset.sum_subset (fun R hR => List.mem_toFinset.mpr (hsub R (List.mem_toFinset.mp hR)))
    fun R _ hR => by rw [if_neg (mt List.mem_toFinset.mpr hR), mul_zero]).symm

/-- the embedded matrix has the original element at the position of every old R-vector and zero elsewhere -/
theorem embed_values (Rold Rnew : List Vec3) (X : Nat → Nat → K) (hold : Rold.Nodup) (hsub : ∀ R ∈ Rold, R ∈ Rnew)
    (k : Nat) (hk : k < Rold.length) (c : Nat) :
    embed Rold Rnew X (Rnew.idxOf (Rold.getD k (0, 0, 0))) c = X k c := by
  have hmem : Rold[k] ∈ Rold := List.getElem_mem hk
  have hlt : Rnew.idxOf Rold[k] < Rnew.length := List.idxOf_lt_length_iff.mpr (hsub _ hmem)
  rw [List.getD_eq_getElem Rold _ hk]
  simp only [embed, hlt, List.getD_eq_getElem Rnew _ hlt, List.getElem_idxOf, hmem, and_self, if_true,
    hold.idxOf_getElem k hk]

/-- non-vacuity: two R lists with different members and orders, union in a third order -/
example :
    let R0 : List Vec3 := [(0, 0, 0), (1, 0, 0), (-1, 0, 0)]
    let R1 : List Vec3 := [(0, 1, 0), (0, 0, 0)]
    let Rn : List Vec3 := [(0, 1, 0), (-1, 0, 0), (0, 0, 0), (1, 0, 0)]
    R0.Nodup ∧ R1.Nodup ∧ Rn.Nodup ∧ (∀ R ∈ R0, R ∈ Rn) ∧ (∀ R ∈ R1, R ∈ Rn) ∧
      (List.range 4).map (fun ir => embed R0 Rn (arr 1 [5, 7, 11]) ir 0) = [(0 : Rat), 11, 5, 7] := by
  decide +kernel

/-- T2.  Endpoints: at `alpha = 0` the interpolated system has the centres, shifts and (re-embedded) matrices of
    system0, at `alpha = 1` those of system1 — shifts included, so `R + t_j - t_i` and with it every k-derivative
    (Berry curvature) is that of the end system.  (`hs0`, `hs1`: the R-vector object of each input system holds its
    own centres, as every constructor in the code base arranges.) -/
theorem endpoints (Li : Nat → Nat → K) (p0 p1 : Sys K)
    (hs0 : ∀ i c, p0.shifts i c = red Li p0.wcc i c) (hs1 : ∀ i c, p1.shifts i c = red Li p1.wcc i c) :
    (∀ i c, (interpolate Li p0 p1 0).wcc i c = p0.wcc i c ∧ (interpolate Li p0 p1 0).shifts i c = p0.shifts i c) ∧
    (∀ i c, (interpolate Li p0 p1 1).wcc i c = p1.wcc i c ∧ (interpolate Li p0 p1 1).shifts i c = p1.shifts i c) := by
  refine ⟨fun i c => ⟨mix_zero _ _, ?_⟩, fun i c => ⟨mix_one _ _, ?_⟩⟩
  · exact (red_mix Li 0 p0.wcc p1.wcc i c).trans ((mix_zero _ _).trans (hs0 i c).symm)
  · exact (red_mix Li 1 p0.wcc p1.wcc i c).trans ((mix_one _ _).trans (hs1 i c).symm)

/-- The defect that was repaired (F14): the shifts were left at system0's values for every alpha, `alpha = 1`
    included. -/
theorem old_interpolate_keeps_shifts0 (Li : Nat → Nat → K) (p0 p1 : Sys K) (α : K) (i c : Nat) :
    (interpolateOld Li p0 p1 α).shifts i c = p0.shifts i c := rfl

/-- Only the matrices present in BOTH systems survive `__init__` (the others are dropped with a warning). -/
theorem prepare_keys [DecidableEq K] (s : Sys K) (otherKeys : List Name) (Rnew : List Vec3) (k : Name) :
    k ∈ (prepare s otherKeys Rnew).mats.map (·.1) ↔ k ∈ s.mats.map (·.1) ∧ k ∈ otherKeys := by
  simp only [prepare, List.map_map, List.mem_map, List.mem_filter, Function.comp]
  constructor
  · rintro ⟨p, ⟨hp, hc⟩, rfl⟩
    exact ⟨⟨p, hp, rfl⟩, by simpa using hc⟩
  · rintro ⟨⟨p, hp, rfl⟩, hk⟩
    exact ⟨p, ⟨hp, by simpa using hk⟩, rfl⟩

/-- T2 (matrices).  For a matrix present in both prepared systems the interpolated matrix is the affine mix; at the
    endpoints it is the matrix of the end system. -/
theorem endpoints_matrix (Li : Nat → Nat → K) (p0 p1 : Sys K) (key : Name) (X0 X1 : Nat → Nat → K)
    (h0 : lookup p0.mats key = some X0) (h1 : lookup p1.mats key = some X1) (α : K) :
    ∃ Y, lookup (interpolate Li p0 p1 α).mats key = some Y ∧
      (∀ ir c, Y ir c = mix α (X0 ir c) (X1 ir c)) ∧
      (α = 0 → ∀ ir c, Y ir c = X0 ir c) ∧ (α = 1 → ∀ ir c, Y ir c = X1 ir c) := by
  have hl := lookup_map (fun (k : Name) (X : Nat → Nat → K) => fun (ir c : Nat) =>
    match lookup p1.mats k with
    | some Y => mix α (X ir c) (Y ir c)
    | none => X ir c) p0.mats key
  rw [h0, h1] at hl
  refine ⟨_, hl, fun ir c => rfl, ?_, ?_⟩
  · intro hα ir c; simp only [hα, mix_zero]
  · intro hα ir c; simp only [hα, mix_one]

/-- T2 (k-space).  Combined with T1: at `alpha = 1` (resp. 0) every k-space sum of the entrywise mix of the two
    re-embedded matrices — the form `interpolate` gives a common matrix, `endpoints_matrix` — equals that of the
    ORIGINAL matrix of system1 (resp. system0) on its own R-vector list. -/
theorem endpoint_bloch (χ : Vec3 → K) (R0 R1 Rnew : List Vec3) (X0 X1 : Nat → Nat → K) (c : Nat)
    (h0 : R0.Nodup) (h1 : R1.Nodup) (hnew : Rnew.Nodup)
    (hs0 : ∀ R ∈ R0, R ∈ Rnew) (hs1 : ∀ R ∈ R1, R ∈ Rnew) :
    blochSum χ Rnew (fun ir c => mix 0 (embed R0 Rnew X0 ir c) (embed R1 Rnew X1 ir c)) c = blochSum χ R0 X0 c ∧
    blochSum χ Rnew (fun ir c => mix 1 (embed R0 Rnew X0 ir c) (embed R1 Rnew X1 ir c)) c = blochSum χ R1 X1 c := by
  constructor
  · simp only [mix_zero]; exact embed_preserves χ R0 Rnew X0 c h0 hnew hs0
  · simp only [mix_one]; exact embed_preserves χ R1 Rnew X1 c h1 hnew hs1

/-- T3.  Affinity: centres and shifts at `(1-t)·α + t·β` are the same affine combination of their values at `α` and
    `β`, and so is `mix`, hence every entry of a common matrix (`endpoints_matrix`): all second differences in alpha
    vanish. -/
theorem affine (Li : Nat → Nat → K) (p0 p1 : Sys K) (t α β : K) :
    (∀ i c, (interpolate Li p0 p1 ((1 - t) * α + t * β)).wcc i c
        = (1 - t) * (interpolate Li p0 p1 α).wcc i c + t * (interpolate Li p0 p1 β).wcc i c) ∧
    (∀ i c, (interpolate Li p0 p1 ((1 - t) * α + t * β)).shifts i c
        = (1 - t) * (interpolate Li p0 p1 α).shifts i c + t * (interpolate Li p0 p1 β).shifts i c) ∧
    (∀ a b : K, mix ((1 - t) * α + t * β) a b = (1 - t) * mix α a b + t * mix β a b) := by
  refine ⟨fun i c => mix_affine t α β _ _, fun i c => ?_, fun a b => mix_affine t α β a b⟩
  simp only [interpolate, red_mix]
  exact mix_affine t α β _ _

/-- T3a.  Exact distance from the end points: `X(alpha) - X(1) = (alpha - 1)(X1 - X0)` and
    `X(alpha) - X(0) = alpha (X1 - X0)` for every alpha, arbitrarily close to an end point included. -/
theorem mix_sub_endpoints (α a b : K) :
    mix α a b - mix 1 a b = (α - 1) * (b - a) ∧ mix α a b - mix 0 a b = α * (b - a) := by
  exact ⟨by rw [mix_eq, mix_eq 1, add_sub_add_left_eq_sub, ← sub_mul],
    by rw [mix_eq, mix_zero, add_sub_cancel_left]⟩

/-- T3b.  No neighbourhood of an end point is flat: the interpolated value equals the end value only AT the end
    point, unless the two systems agree in that entry. -/
theorem no_flat_neighbourhood (α a b : K) :
    (mix α a b = mix 1 a b ↔ α = 1 ∨ a = b) ∧ (mix α a b = mix 0 a b ↔ α = 0 ∨ a = b) := by
  have h := mix_sub_endpoints α a b
  constructor
  · rw [← sub_eq_zero, h.1, mul_eq_zero, sub_eq_zero, sub_eq_zero, eq_comm (a := b)]
  · rw [← sub_eq_zero, h.2, mul_eq_zero, sub_eq_zero, eq_comm (a := b)]

/-- T3c.  Counterexample for the rule "snap alpha to the end point when `isclose(alpha, 1)`" (rtol 1e-5): at
    `alpha = 1 - 8e-6` between the entries 0 and 1 the snapped value is 1 instead of 1 - 8e-6, and the second
    difference with step 8e-6 ending at alpha = 1 - 8e-6 does not vanish: the snapped interpolation is not affine. -/
theorem snapping_is_not_affine :
    let near0 : Rat → Bool := fun α => decide (|α| ≤ 1 / 100000000)
    let near1 : Rat → Bool := fun α => decide (|α - 1| ≤ 1 / 100000 + 1 / 100000000)
    let h : Rat := 8 / 1000000
    mixSnap near0 near1 (1 - h) 0 1 = 1 ∧ mix (1 - h) (0 : Rat) 1 = 1 - h ∧
    mixSnap near0 near1 (1 - 3 * h) 0 1 - 2 * mixSnap near0 near1 (1 - 2 * h) 0 1 + mixSnap near0 near1 (1 - h) 0 1 ≠ 0 ∧
    mix (1 - 3 * h) (0 : Rat) 1 - 2 * mix (1 - 2 * h) 0 1 + mix (1 - h) 0 1 = 0 := by
  decide +kernel

/-- One interpolator used repeatedly: in EVERY history of `interpolate` calls and in-place edits of the systems
    that were handed out, every call `interpolate alpha` returns `F system0 system1 alpha`, and the interpolator's
    own two systems are never changed — for the code's rule (a fresh object per call). -/
theorem interpolate_is_a_function {S : Type} (F : S → S → K → S) :
    ∀ (ops : List (IOp K S)) (st : IState K S),
      (∀ p ∈ (runFresh F ops st).1, p.2 = F st.s0 st.s1 p.1) ∧
      (runFresh F ops st).2.s0 = st.s0 ∧ (runFresh F ops st).2.s1 = st.s1
  | [], _ => ⟨fun _ hp => absurd hp List.not_mem_nil, rfl, rfl⟩
  | .interp α :: t, st =>
    have ⟨h1, h2, h3⟩ := interpolate_is_a_function F t { st with heap := st.heap ++ [F st.s0 st.s1 α] }
    ⟨List.forall_mem_cons.mpr ⟨rfl, h1⟩, h2, h3⟩
  | .mutate i f :: t, st => interpolate_is_a_function F t { st with heap := st.heap.modify i f }

/-- Counterexample for the memoised rule (the cache hands out the stored object): interpolate 0, the caller
    edits the returned system, interpolate 0 again — the second call returns the edited system; the code's rule
    returns the interpolation both times. -/
theorem memoised_interpolate_is_aliased :
    let F : Nat → Nat → Nat → Nat := fun a b α => a + α * b
    let st : IState Nat Nat := { s0 := 5, s1 := 7, heap := [], cache := [] }
    let hist : List (IOp Nat Nat) := [.interp 0, .mutate 0 (· + 100), .interp 0, .interp 2]
    (runMemo F hist st).1 = [(0, 5), (0, 105), (2, 19)] ∧ (runFresh F hist st).1 = [(0, 5), (0, 5), (2, 19)] := by
  decide +kernel

/-- non-vacuity of `interpolate_is_a_function`: a history with repeated alphas and edits of earlier results, at `Rat`
    with the real `mix` -/
example :
    let F : Rat → Rat → Rat → Rat := fun a b α => mix α a b
    let st : IState Rat Rat := { s0 := 2, s1 := 6, heap := [], cache := [] }
    (runFresh F [.interp (1/2), .mutate 0 (fun _ => 0), .interp (1/2), .interp 1, .mutate 2 (· * 3), .interp 1] st).1
      = [(1/2, 4), (1/2, 4), (1, 6), (1, 6)] := by
  decide +kernel

end WB.C26
