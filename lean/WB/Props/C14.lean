/-
  C14 — tetrahedron weights are the exact linear-tetrahedron volume fractions: property theorems.
  (helper lemmas: WB/Lemmas/C14*.lean)

  SPEC (Lemmas/C14Spec):  spec n e₁ e₂ e₃ e₄ ε = (3·2·…) · Σᵢ (ε-eᵢ)₊^(3-n) / Π_{j≠i}(eⱼ-eᵢ)
  — for n = 0 the fraction of the volume of a tetrahedron with corner energies e₁..e₄ (linear interpolation) below ε
  (Hermite–Genocchi / truncated-power form; taken as the definition of "exact fraction"), for n = 1,2,3 its
  term-wise derivatives.  `K` is any linearly ordered field; the analytic statements are over ℝ.
-/
import WB.Lemmas.C14Mono
import WB.Lemmas.C14Sort
import WB.Lemmas.C14Real
import WB.Lemmas.C14Groups
import WB.Lemmas.C14Paral
import WB.Lemmas.C14Cache

namespace WB.C14
set_option linter.unusedSectionVars false

section field
variable {K : Type} [Field K] [LinearOrder K] [IsStrictOrderedRing K]

/-! ## the code's formulas are the spec -/

/-- T1.  On strictly increasing corners the `accurate` branch of `weights_tetra` equals the exact volume fraction
    on each of the five intervals of the Fermi level. -/
theorem accurate_eq_spec {e1 e2 e3 e4 : K} (h12 : e1 < e2) (h23 : e2 < e3) (h34 : e3 < e4) (x : K) :
    occAcc e1 e2 e3 e4 x = spec 0 e1 e2 e3 e4 x := by
  have h : Incr e1 e2 e3 e4 := ⟨h12, h23, h34⟩
  obtain ⟨n12, n13, n14, n23, n24, n34⟩ := h.ne
  refine piece_eq_spec h (Nat.zero_le 3) x rfl rfl ?_ ?_ ?_
  · rw [specHead_three h le_rfl, ← neg_sub e4 e1, ← neg_sub e4 e2, ← neg_sub e4 e3]
    simp only [ff, if_true]
    field_simp
    ring
  · simp only [specHead, ff, Nat.reduceLeDiff, if_true, if_false, le_refl]
    field_simp
    ring
  · simp only [specHead, ff, Nat.reduceLeDiff, if_false]
    rw [div_mul_div_comm, div_mul_div_comm]
    ring

/-- T2 + T3 (algebraic).  The polynomial branch — cubic coefficients `c1*, c2*, c3*` evaluated by Horner, and the
    `der = 1, 2, 3` expressions built from the same coefficients — equals the spec and its term-wise derivatives. -/
theorem poly_eq_spec {e1 e2 e3 e4 : K} (h12 : e1 < e2) (h23 : e2 < e3) (h34 : e3 < e4) (der : Nat) (hder : der ≤ 3)
    (x : K) : occPoly der e1 e2 e3 e4 x = spec der e1 e2 e3 e4 x := by
  have h : Incr e1 e2 e3 e4 := ⟨h12, h23, h34⟩
  obtain ⟨A0, A1, A2, A3⟩ := specHead_horner 1 e1 e2 e3 e4 x
  obtain ⟨B0, B1, B2, B3⟩ := specHead_horner 2 e1 e2 e3 e4 x
  obtain ⟨C0, C1, C2, C3⟩ := specHead_horner 3 e1 e2 e3 e4 x
  unfold occPoly
  rw [coefs_taylor h]
  obtain rfl | rfl | rfl | rfl : der = 0 ∨ der = 1 ∨ der = 2 ∨ der = 3 := by omega
  · exact piece_eq_spec h hder x rfl rfl (C0.trans (one_mul _).symm) (B0.trans (one_mul _).symm)
      (A0.trans (one_mul _).symm)
  · exact piece_eq_spec h hder x rfl rfl C1 B1 A1
  · exact piece_eq_spec h hder x rfl rfl C2 B2 A2
  · exact piece_eq_spec h hder x rfl rfl C3 B3 A3

/-- MAIN.  For ARBITRARY corner energies (any order, coincident or not), every derivative order 0-3 and both
    branches, `weights_tetra` evaluates the spec on the sorted corners after the `diff_min` separation pass. -/
theorem weightsTetra_is_spec {dmin : K} (hd : 0 < dmin) (der : Nat) (hder : der ≤ 3) (acc : Bool)
    (a b c d x s1 s2 s3 s4 : K) (hs : sort4 a b c d = [s1, s2, s3, s4]) :
    weightsTetra dmin der acc a b c d x =
      spec der (sep4 dmin s1 s2 s3 s4).1 (sep4 dmin s1 s2 s3 s4).2.1 (sep4 dmin s1 s2 s3 s4).2.2.1
        (sep4 dmin s1 s2 s3 s4).2.2.2 x := by
  have h := sep4_incr hd s1 s2 s3 s4
  unfold weightsTetra
  rw [hs]
  show occ der acc _ _ _ _ x = _
  unfold occ
  split_ifs with hc
  · rw [Bool.and_eq_true, beq_iff_eq] at hc
    obtain ⟨-, rfl⟩ := hc
    exact accurate_eq_spec h.h12 h.h23 h.h34 x
  · exact poly_eq_spec h.h12 h.h23 h.h34 der hder x

/-- the sorted corners exist, are ordered, and are a permutation of the input -/
theorem sorted_corners (a b c d : K) :
    ∃ s1 s2 s3 s4 : K, sort4 a b c d = [s1, s2, s3, s4] ∧ s1 ≤ s2 ∧ s2 ≤ s3 ∧ s3 ≤ s4 ∧
      [s1, s2, s3, s4].Perm [a, b, c, d] := by
  have hp := sort4_perm a b c d
  have hs := sort4_sorted a b c d
  match hm : sort4 a b c d, sort4_length a b c d with
  | [s1, s2, s3, s4], _ =>
    rw [hm] at hs hp
    simp only [List.pairwise_cons, List.mem_cons, List.not_mem_nil, or_false, forall_eq_or_imp, forall_eq] at hs
    exact ⟨s1, s2, s3, s4, rfl, hs.1.1, hs.2.1.1, hs.2.2.1, hp⟩

/-- MAIN (separated corners).  When the sorted corners are at least `diff_min` apart the separation pass is the
    identity, so the weight is the spec of the corners themselves. -/
theorem weightsTetra_is_spec_separated {dmin : K} (hd : 0 < dmin) (der : Nat) (hder : der ≤ 3) (acc : Bool)
    (a b c d x s1 s2 s3 s4 : K) (hs : sort4 a b c d = [s1, s2, s3, s4])
    (g12 : dmin ≤ s2 - s1) (g23 : dmin ≤ s3 - s2) (g34 : dmin ≤ s4 - s3) :
    weightsTetra dmin der acc a b c d x = spec der s1 s2 s3 s4 x := by
  rw [weightsTetra_is_spec hd der hder acc a b c d x s1 s2 s3 s4 hs, sep4_id g12 g23 g34]

/-- the separation pass moves no corner down and none up by more than `3·diff_min`; the result is strictly
    increasing (the gaps are `≥ diff_min`: `sep4_gap`).  This is the only place where the code departs from the exact
    fraction of the given corners. -/
theorem separation_bound {dmin : K} (hd : 0 < dmin) {s1 s2 s3 s4 : K} (h12 : s1 ≤ s2) (h23 : s2 ≤ s3) (h34 : s3 ≤ s4) :
    (sep4 dmin s1 s2 s3 s4).1 = s1 ∧
    (s2 ≤ (sep4 dmin s1 s2 s3 s4).2.1 ∧ (sep4 dmin s1 s2 s3 s4).2.1 ≤ s2 + dmin) ∧
    (s3 ≤ (sep4 dmin s1 s2 s3 s4).2.2.1 ∧ (sep4 dmin s1 s2 s3 s4).2.2.1 ≤ s3 + 2 * dmin) ∧
    (s4 ≤ (sep4 dmin s1 s2 s3 s4).2.2.2 ∧ (sep4 dmin s1 s2 s3 s4).2.2.2 ≤ s4 + 3 * dmin) ∧
    (sep4 dmin s1 s2 s3 s4).1 < (sep4 dmin s1 s2 s3 s4).2.1 ∧
    (sep4 dmin s1 s2 s3 s4).2.1 < (sep4 dmin s1 s2 s3 s4).2.2.1 ∧
    (sep4 dmin s1 s2 s3 s4).2.2.1 < (sep4 dmin s1 s2 s3 s4).2.2.2 := by
  obtain ⟨a, b, c, d⟩ := sep4_shift hd.le h12 h23 h34
  obtain ⟨i1, i2, i3⟩ := sep4_incr hd s1 s2 s3 s4
  exact ⟨a, b, c, d, i1, i2, i3⟩

/-! ## range, monotonicity, symmetry -/

/-- T4 (range).  The occupation weight lies in [0,1] for all corners and Fermi levels, both branches. -/
theorem occupation_range {dmin : K} (hd : 0 < dmin) (acc : Bool) (a b c d x : K) :
    0 ≤ weightsTetra dmin 0 acc a b c d x ∧ weightsTetra dmin 0 acc a b c d x ≤ 1 := by
  obtain ⟨s1, s2, s3, s4, hs, -⟩ := sorted_corners a b c d
  rw [weightsTetra_is_spec hd 0 (Nat.zero_le 3) acc a b c d x s1 s2 s3 s4 hs]
  exact spec0_range (sep4_incr hd s1 s2 s3 s4) x

/-- T4 (monotone).  The occupation weight is non-decreasing in the Fermi level. -/
theorem occupation_monotone {dmin : K} (hd : 0 < dmin) (acc : Bool) (a b c d : K) {x y : K} (hxy : x ≤ y) :
    weightsTetra dmin 0 acc a b c d x ≤ weightsTetra dmin 0 acc a b c d y := by
  obtain ⟨s1, s2, s3, s4, hs, -⟩ := sorted_corners a b c d
  rw [weightsTetra_is_spec hd 0 (Nat.zero_le 3) acc a b c d x s1 s2 s3 s4 hs,
    weightsTetra_is_spec hd 0 (Nat.zero_le 3) acc a b c d y s1 s2 s3 s4 hs]
  exact spec0_mono (sep4_incr hd s1 s2 s3 s4) hxy

/-- T4 (DOS weight).  The first-derivative weight is non-negative. -/
theorem dos_weight_nonneg {dmin : K} (hd : 0 < dmin) (acc : Bool) (a b c d x : K) :
    0 ≤ weightsTetra dmin 1 acc a b c d x := by
  obtain ⟨s1, s2, s3, s4, hs, -⟩ := sorted_corners a b c d
  rw [weightsTetra_is_spec hd 1 (by norm_num) acc a b c d x s1 s2 s3 s4 hs]
  exact spec1_nonneg (sep4_incr hd s1 s2 s3 s4) x

/-- T4 (limits).  Below all corners every weight is 0; `3·diff_min` above all corners the occupation is 1. -/
theorem occupation_limits {dmin : K} (hd : 0 < dmin) (acc : Bool) (a b c d x : K) :
    (x < a → x < b → x < c → x < d → ∀ der, der ≤ 3 → weightsTetra dmin der acc a b c d x = 0) ∧
    (∀ M, a ≤ M → b ≤ M → c ≤ M → d ≤ M → M + 3 * dmin ≤ x → weightsTetra dmin 0 acc a b c d x = 1) := by
  obtain ⟨s1, s2, s3, s4, hs, h12, h23, h34, hp⟩ := sorted_corners a b c d
  have hmem : ∀ s ∈ [s1, s2, s3, s4], s = a ∨ s = b ∨ s = c ∨ s = d := fun s h => by simpa using hp.mem_iff.mp h
  refine ⟨fun ha hb hc hdd der hder => ?_, fun M ha hb hc hdd hx => ?_⟩
  · -- the lowest separated corner is the lowest corner
    have h1 : x < (sep4 dmin s1 s2 s3 s4).1 := by
      rcases hmem s1 (by simp) with h | h | h | h <;> rw [(sep4_shift hd.le h12 h23 h34).1, h] <;> assumption
    rw [weightsTetra_is_spec hd der hder acc a b c d x s1 s2 s3 s4 hs]
    exact spec_below (sep4_incr hd s1 s2 s3 s4) hder h1
  · -- the highest separated corner is at most `3·diff_min` above the highest corner
    have h4 : s4 ≤ M := by rcases hmem s4 (by simp) with h | h | h | h <;> rw [h] <;> assumption
    rw [weightsTetra_is_spec hd 0 (Nat.zero_le 3) acc a b c d x s1 s2 s3 s4 hs]
    exact (spec_above (sep4_incr hd s1 s2 s3 s4) (Nat.zero_le 3)
      ((sep4_shift hd.le h12 h23 h34).2.2.2.2.trans ((add_le_add h4 le_rfl).trans hx))).trans (if_pos rfl)

/-- T5.  `weights_tetra` does not depend on the order of the corners: all 24 permutations, every `der`, both
    branches (no hypothesis on the corners or on `diff_min`). -/
theorem perm_invariant (dmin : K) (der : Nat) (acc : Bool) {a b c d a' b' c' d' : K}
    (hp : [a, b, c, d].Perm [a', b', c', d']) (x : K) :
    weightsTetra dmin der acc a b c d x = weightsTetra dmin der acc a' b' c' d' x := by
  unfold weightsTetra
  rw [sort4_congr hp]

/-- the spec itself is symmetric under the three adjacent transpositions (which generate S₄) -/
theorem spec_symmetric (n : Nat) (e1 e2 e3 e4 x : K) :
    spec n e2 e1 e3 e4 x = spec n e1 e2 e3 e4 x ∧ spec n e1 e3 e2 e4 x = spec n e1 e2 e3 e4 x ∧
    spec n e1 e2 e4 e3 x = spec n e1 e2 e3 e4 x :=
  ⟨by unfold spec; ring, by unfold spec; ring, by unfold spec; ring⟩

/-! ## parallelepiped K-points -/

/-- T6 (geometry).  The 12 tetrahedra of `TetraWeightsParal` (centre + two triangles per face) each have 1/12 of
    the cell volume (|det|/6 with det² = 1/4). -/
theorem paral_volumes : paralTets.length = 12 ∧ ∀ t ∈ paralTets, tetVol6 t * tetVol6 t = 1 / 4 :=
  ⟨by decide, by decide +kernel⟩

/-- T6 (cover).  Every point of the cell lies in one of the 12 tetrahedra.  (With `paral_volumes`, 12 · 1/12 = 1, they
    tile the cell; that their interiors are disjoint is not stated.) -/
theorem paral_cover (x y z : K) (hx0 : 0 ≤ x) (hx1 : x ≤ 1) (hy0 : 0 ≤ y) (hy1 : y ≤ 1) (hz0 : 0 ≤ z) (hz1 : z ≤ 1) :
    ∃ t ∈ paralTets, InTet t (x, y, z) := by
  rcases le_total x y with hxy | hxy <;> rcases le_total y z with hyz | hyz
  · exact cover_sorted hx0 hxy hyz hz1
  · rcases le_total x z with hxz | hxz
    · exact cover_swapYZ (cover_sorted hx0 hxz hyz hy1)
    · exact cover_swapYZ (cover_swapXY (cover_sorted hz0 hxz hxy hy1))
  · rcases le_total x z with hxz | hxz
    · exact cover_swapXY (cover_sorted hy0 hxy hxz hz1)
    · exact cover_swapXY (cover_swapYZ (cover_sorted hy0 hyz hxz hx1))
  · exact cover_swapXY (cover_swapYZ (cover_swapXY (cover_sorted hz0 hyz hxy hx1)))

/-- T6 (weights).  The parallelepiped weight is the mean of 12 exact tetrahedron fractions, hence in [0,1],
    non-decreasing, 0 below and 1 (`3·diff_min`) above the centre and all corners. -/
theorem paral_weight {dmin : K} (hd : 0 < dmin) (acc : Bool) (center : K) (corner : Nat × Nat × Nat → K) :
    (∀ x, 0 ≤ paralWeight dmin 0 acc center corner x ∧ paralWeight dmin 0 acc center corner x ≤ 1) ∧
    (∀ x y, x ≤ y → paralWeight dmin 0 acc center corner x ≤ paralWeight dmin 0 acc center corner y) ∧
    (∀ x, x < center → (∀ v, x < corner v) → ∀ der, der ≤ 3 → paralWeight dmin der acc center corner x = 0) ∧
    (∀ x M, center ≤ M → (∀ v, corner v ≤ M) → M + 3 * dmin ≤ x → paralWeight dmin 0 acc center corner x = 1) := by
  have h12 : (0 : K) < 12 := by norm_num
  simp only [paralWeight_eq_sum]
  refine ⟨fun x => ⟨div_nonneg (List.sum_nonneg ?_) h12.le, (div_le_one h12).mpr ?_⟩, fun x y hxy => ?_,
    fun x hc hcorn der hder => ?_, fun x M hc hcorn hx => ?_⟩
  · exact List.forall_mem_map.mpr fun t _ => (occupation_range hd acc _ _ _ _ x).1
  · refine (List.sum_le_card_nsmul _ 1
      (List.forall_mem_map.mpr fun t _ => (occupation_range hd acc _ _ _ _ x).2)).trans_eq ?_
    rw [List.length_map, paral_volumes.1, nsmul_eq_mul, mul_one, Nat.cast_ofNat]
  · exact div_le_div_of_nonneg_right (List.sum_le_sum fun t _ => occupation_monotone hd acc _ _ _ _ hxy) h12.le
  · rw [List.sum_eq_card_nsmul _ 0 (List.forall_mem_map.mpr fun t _ =>
      (occupation_limits hd acc _ _ _ _ x).1 hc (hcorn _) (hcorn _) (hcorn _) der hder), smul_zero, zero_div]
  · rw [List.sum_eq_card_nsmul _ 1 (List.forall_mem_map.mpr fun t _ =>
      (occupation_limits hd acc _ _ _ _ x).2 M hc (hcorn _) (hcorn _) (hcorn _) hx), List.length_map,
      paral_volumes.1, nsmul_eq_mul, mul_one]
    norm_num

end field

/-! ## the derivative weights are the derivatives (over ℝ) -/

/-- T3 (analytic).  For real corner energies the weight returned for `der + 1` is the derivative, with respect to
    the Fermi level, of the weight returned for `der` (`der = 0, 1`: at every Fermi level; `der = 2`, where the
    function is piecewise linear: at every Fermi level that is not one of the four separated corners). -/
theorem der_is_derivative {dmin : ℝ} (hd : 0 < dmin) (der : Nat) (hder : der ≤ 2) (acc acc' : Bool)
    (a b c d x s1 s2 s3 s4 : ℝ) (hs : sort4 a b c d = [s1, s2, s3, s4])
    (hx : der = 2 → x ≠ (sep4 dmin s1 s2 s3 s4).1 ∧ x ≠ (sep4 dmin s1 s2 s3 s4).2.1 ∧
      x ≠ (sep4 dmin s1 s2 s3 s4).2.2.1 ∧ x ≠ (sep4 dmin s1 s2 s3 s4).2.2.2) :
    HasDerivAt (fun y => weightsTetra dmin der acc a b c d y) (weightsTetra dmin (der + 1) acc' a b c d x) x := by
  rw [funext fun y => weightsTetra_is_spec hd der (by omega) acc a b c d y s1 s2 s3 s4 hs,
    weightsTetra_is_spec hd (der + 1) (by omega) acc' a b c d x s1 s2 s3 s4 hs]
  exact spec_hasDerivAt der hder _ _ _ _ x hx

/-- T3 (continuity).  The weights for `der = 0, 1, 2` are continuous functions of the Fermi level (in particular at
    the three interior breakpoints and at both ends); `der = 3` is piecewise constant. -/
theorem weights_continuous {dmin : ℝ} (hd : 0 < dmin) (der : Nat) (hder : der ≤ 2) (acc : Bool) (a b c d : ℝ) :
    Continuous (fun y => weightsTetra dmin der acc a b c d y) := by
  obtain ⟨s1, s2, s3, s4, hs, -⟩ := sorted_corners a b c d
  rw [funext fun y => weightsTetra_is_spec hd der (by omega) acc a b c d y s1 s2 s3 s4 hs]
  exact spec_continuous der hder _ _ _ _

/-! ## cumulative DOS with the tetrahedron method (one k-point; the BZ result is the average over k) -/

/-- T7 (above).  Band groups of `weights_all_band_groups(der=0)` + the lumped sea group count every band exactly
    once: if the Fermi level `ef` of the scan (`ef0 ≤ … ≤ efN`) is above every band (`Emax i + δ ≤ ef`, `δ` the margin
    beyond which the band weight is 1 — `3·diff_min` by `occupation_limits`/`paral_weight`), the contribution of the
    k-point to CumDOS is the number of bands.  Hypotheses: `n ≥ 1` bands, even with Kramers grouping, per-band
    `Emin ≤ Emax` (min/max over centre and corners) and `Emax` non-decreasing in the band index (bands are sorted
    at every corner). -/
theorem tetraCumDOS_above (Ec Emin Emax : Nat → Rat) (th : Rat) (n : Nat) (kr : Bool) (ef0 efN ef : Rat)
    (w : Nat → Rat) (hk : kr = true → n % 2 = 0)
    (hmm : ∀ i, i < n → Emin i ≤ Emax i) (hmono : ∀ i j, i ≤ j → j < n → Emax i ≤ Emax j)
    (hN : ef ≤ efN) (δ : Rat) (hδ : 0 ≤ δ) (habove : ∀ i, i < n → Emax i + δ ≤ ef)
    (hw : ∀ i, i < n → Emax i + δ ≤ ef → w i = 1) :
    tetraCumDOS Ec Emin Emax th n kr ef0 efN w = (n : Rat) := by
  -- the blocks in the Fermi window are those ending above the bands that lie below `ef0` …
  have hfilter : inRange Ec Emin Emax th n kr ef0 efN =
      (C15.blocks Ec th n kr).filter (fun ab => decide (bandsBelow Emax n (some ef0) < ab.2)) := by
    unfold inRange
    apply List.filter_congr
    intro ab hab
    obtain ⟨h1, h2⟩ := blocks_bounds Ec th n kr hk ab hab
    have hmin : C15.sliceMin Emin ab.1 ab.2 ≤ efN :=
      (sliceMin_le_iff ..).mpr (Or.inl ((hmm _ (by omega)).trans (by linarith [habove ab.1 (by omega)])))
    simp only [ge_iff_le, sliceMax_ge_iff_bandsBelow_lt Emax n ab.1 ab.2 h1 h2 hmono, hmin, decide_true,
      Bool.and_true]
  -- … each with weight 1; the lumped group holds the bands below
  have hmapw : ((C15.blocks Ec th n kr).filter (fun ab => decide (bandsBelow Emax n (some ef0) < ab.2))).map
        (fun ab => groupWeight w ab * identTrace ab) =
      ((C15.blocks Ec th n kr).filter (fun ab => decide (bandsBelow Emax n (some ef0) < ab.2))).map identTrace := by
    apply List.map_congr_left
    intro ab hab
    obtain ⟨h1, h2⟩ := blocks_bounds Ec th n kr hk ab (List.mem_filter.mp hab).1
    rw [groupWeight_const w 1 ab h1 (fun i _ hi => hw i (by omega) (habove i (by omega))), one_mul]
  rw [tetraCumDOS_eq, hfilter, hmapw]
  exact blocks_filter_plus_lump Ec th n kr hk _ (bandsBelow_spec Emax n ef0 hmono).1

/-- T7 (below).  If the Fermi level is below every corner of every band the contribution vanishes. -/
theorem tetraCumDOS_below (Ec Emin Emax : Nat → Rat) (th : Rat) (n : Nat) (kr : Bool) (ef0 efN ef : Rat)
    (w : Nat → Rat) (hk : kr = true → n % 2 = 0)
    (hmm : ∀ i, i < n → Emin i ≤ Emax i)
    (h0 : ef0 ≤ ef) (hbelow : ∀ i, i < n → ef < Emin i)
    (hw : ∀ i, i < n → ef < Emin i → w i = 0) :
    tetraCumDOS Ec Emin Emax th n kr ef0 efN w = 0 := by
  have hb0 : bandsBelow Emax n (some ef0) = 0 :=
    bandsBelow_eq_zero Emax n ef0 (fun i hi => (h0.trans (hbelow i hi).le).trans (hmm i hi))
  have hz : ∀ x ∈ (inRange Ec Emin Emax th n kr ef0 efN).map (fun ab => groupWeight w ab * identTrace ab), x = 0 := by
    intro x hx
    obtain ⟨ab, hab, rfl⟩ := List.mem_map.mp hx
    unfold inRange at hab
    obtain ⟨h1, h2⟩ := blocks_bounds Ec th n kr hk ab (List.mem_filter.mp hab).1
    rw [groupWeight_const w 0 ab h1 (fun i _ hi => hw i (by omega) (hbelow i (by omega))), zero_mul]
  rw [tetraCumDOS_eq, List.sum_eq_zero hz, hb0, lumpSize_zero, Nat.cast_zero, add_zero]

/-! ## glue: band selection, the weight cache, corner energies, the sum over K-points -/

/-- T8 (selection).  `select_bands=None` and a selection of ALL bands give the same groups and weights as no selection
    (groups `(a,b)` with `a < b ≤ n`, as `blocks_bounds` guarantees). -/
theorem select_all_is_unselected (Ec Emin Emax : Nat → Rat) (th : Rat) (n : Nat) (kr : Bool) (emin emax : Rat) :
    inRangeSel Ec Emin Emax th n kr emin emax none = inRange Ec Emin Emax th n kr emin emax ∧
    ∀ ab : Nat × Nat, ab.1 < ab.2 → ab.2 ≤ n →
      selHits (some (List.range n)) ab = true ∧ wsel (some (List.range n)) ab = 1 := by
  refine ⟨?_, fun ab h1 h2 => ⟨?_, ?_⟩⟩
  · unfold inRangeSel
    exact List.filter_eq_self.mpr fun _ _ => rfl
  · unfold selHits
    simp only [List.any_eq_true, List.mem_range, Bool.and_eq_true, decide_eq_true_eq]
    exact ⟨ab.1, by omega, le_refl _, h1⟩
  · unfold wsel
    simp only
    rw [count_range_interval, min_eq_left h2]
    exact div_self (Nat.cast_ne_zero.mpr (by omega))

/-- T8 (selection, DOS).  With the Identity formula a window group contributes its mean band weight times the NUMBER OF
    ITS SELECTED BANDS (so for a group of degenerate bands: the sum of the weights of the selected bands). -/
theorem select_counts_selected_bands (w : Nat → Rat) (l : List Nat) (ab : Nat × Nat) (h1 : ab.1 < ab.2) :
    groupWeightSel w (some l) ab * identTrace ab =
      groupWeight w ab * ((l.filter (fun i => decide (ab.1 ≤ i) && decide (i < ab.2))).length : Rat) := by
  have hpos : ((ab.2 - ab.1 : Nat) : Rat) ≠ 0 := Nat.cast_ne_zero.mpr (by omega)
  unfold groupWeightSel wsel identTrace
  simp only
  field_simp

/-- T8 (order of the selection).  `weight_select_bands`, the group filter and hence the whole group dictionary with
    values depend on `select_bands` only as a multiset: permuting the selection changes nothing (repeated entries are
    counted with their multiplicity, as `np.sum` of the masks does). -/
theorem weight_select_perm_invariant {l l' : List Nat} (h : l.Perm l') (ab : Nat × Nat) :
    wsel (some l) ab = wsel (some l') ab ∧ selHits (some l) ab = selHits (some l') ab := by
  constructor
  · unfold wsel
    simp only
    rw [(h.filter _).length_eq]
  · unfold selHits
    simp only
    rw [Bool.eq_iff_iff]
    simp only [List.any_eq_true]
    exact ⟨fun ⟨x, hx, hp⟩ => ⟨x, h.mem_iff.mp hx, hp⟩, fun ⟨x, hx, hp⟩ => ⟨x, h.mem_iff.mpr hx, hp⟩⟩

/-- T9 (cache transparency).  `TetraWeights` evaluates a weight once per (Fermi array BY IDENTITY, der, ik, ib).  For
    every history of queries — any arrays, orders and repetitions — interleaved with in-place modifications only of
    arrays that this object has never seen (or that leave the contents unchanged), every answer equals the cache-free
    computation on the contents at the time of the query.  `kern` is any pure weight kernel (`tetraKern`, the
    parallelepiped one, …). -/
theorem cache_transparent (kern : List Rat → Int → Nat → Nat → List Rat) (heap : Heap) (ops : List Op)
    (hsafe : AllSafe kern ⟨heap, TW.empty⟩ ops) :
    run kern ⟨heap, TW.empty⟩ ops = pureRun kern heap ops :=
  run_eq_pureRun kern ops ⟨heap, TW.empty⟩ (cacheOk_empty kern heap) hsafe

/-- T9' (the hidden state).  The hypothesis is needed: after an in-place change of a Fermi array that was already
    queried, the object keeps returning the weights of the OLD contents (the key is the identity of the array). -/
theorem cache_stale_after_inplace_change :
    let kern : List Rat → Int → Nat → Nat → List Rat := fun ef _ _ _ => ef
    let ops := [Op.mutate 7 [0, 1], Op.query 7 0 0 0, Op.mutate 7 [5, 6], Op.query 7 0 0 0]
    run kern ⟨[], TW.empty⟩ ops = [none, some [0, 1], none, some [0, 1]] ∧
    pureRun kern [] ops = [none, some [0, 1], none, some [5, 6]] := by
  decide +kernel

/-- T9b (which entry is used).  A query re-uses an existing cache line exactly when the SAME array object (identity)
    was passed before, and the line it uses is the one registered for that object; any other array — even one with equal
    contents — gets its own line. -/
theorem cache_hit_iff_same_array (s : TW) (id : Nat) :
    ((s.register id).1 < s.eFermis.length ↔ id ∈ s.eFermis) ∧
    (s.register id).2.eFermis[(s.register id).1]? = some id := by
  refine ⟨?_, (register_spec s id).1⟩
  unfold TW.register
  cases hf : s.eFermis.findIdx? (· == id) with
  | some i =>
    obtain ⟨hi, hp, -⟩ := List.findIdx?_eq_some_iff_getElem.mp hf
    have : s.eFermis[i] = id := by simpa using hp
    exact ⟨fun _ => this ▸ List.getElem_mem hi, fun _ => hi⟩
  | none =>
    exact ⟨fun h => absurd h (lt_irrefl _), fun h => by simpa using List.findIdx?_eq_none_iff.mp hf id h⟩

/-- T9c (a coarser key is wrong).  If the lookup accepted a stored array with the same LENGTH, FIRST and LAST value, a
    second array with other interior points would receive the weights of the first one, although no array was ever
    modified: arrays `0, 1, 2` and `0, 1/2, 2` (while the identity-keyed cache answers correctly, and the history is
    `Safe`). -/
theorem size_and_endpoints_key_is_wrong :
    let kern : List Rat → Int → Nat → Nat → List Rat := fun ef _ _ _ => ef
    let ops := [Op.mutate 1 [0, 1, 2], Op.mutate 2 [0, 1 / 2, 2], Op.query 1 0 0 0, Op.query 2 0 0 0]
    runEnds kern ⟨[], TW.empty⟩ ops = [none, none, some [0, 1, 2], some [0, 1, 2]] ∧
    run kern ⟨[], TW.empty⟩ ops = [none, none, some [0, 1, 2], some [0, 1 / 2, 2]] := by
  decide +kernel

/-- T10 (corner energies).  `Data_K.tetraWeights` feeds the weight object with `E_K` and `E_K_corners_parallel()`.  If
    these are the band energies `eps` at the FFT point and at the 8 corners of its cell (C33: the corner Hamiltonian is
    the Hamiltonian at the shifted k-point), the weight of band `ib` is the parallelepiped weight of the band structure
    itself (`paral_weight` then applies to it).  The statement only records which energies are fed to the weight
    object; `dataKWeightTetra` is the same hand-over for tetrahedron K-points. -/
theorem weights_from_band_structure {K : Type} [Field K] [LinearOrder K] [IsStrictOrderedRing K] {Q : Type} [Add Q]
    (dmin : K) (der : Nat) (eps : Q → Nat → K) (kpt : Nat → Q) (shift : Nat × Nat × Nat → Q)
    (EK : Nat → Nat → K) (Ecorn : Nat → Nat × Nat × Nat → Nat → K)
    (hcen : ∀ ik ib, EK ik ib = eps (kpt ik) ib)
    (hcorn : ∀ ik v ib, Ecorn ik v ib = eps (kpt ik + shift v) ib) (ik ib : Nat) (ef : K) :
    dataKWeightParal dmin der EK Ecorn ik ib ef =
      paralWeight dmin der true (eps (kpt ik) ib) (fun v => eps (kpt ik + shift v) ib) ef := by
  unfold dataKWeightParal
  rw [hcen]
  congr 1
  funext v
  exact hcorn ik v ib

/-- T11 (run level).  `run()` reports `Σ_K factor_K · (mean over the FFT points of K)`.  With `Σ_K factor_K = 1` (C06)
    the tetrahedron CumDOS is NB once every FFT point of every K-point reports NB (`tetraCumDOS_above`), 0 when all
    report 0 (`tetraCumDOS_below`). -/
theorem run_total_of_constant (Ks : List (Rat × List Rat)) (c : Rat)
    (hsum : (Ks.map (fun K => K.1)).sum = 1)
    (hK : ∀ K ∈ Ks, K.2 ≠ [] ∧ ∀ x ∈ K.2, x = c) : runTotal Ks = c := by
  unfold runTotal
  have hmap : Ks.map (fun K => K.1 * (listSum K.2 / (K.2.length : Rat))) = Ks.map (fun K => K.1 * c) := by
    apply List.map_congr_left
    intro K hKm
    obtain ⟨hne, hall⟩ := hK K hKm
    have : ((K.2.length : Nat) : Rat) ≠ 0 := Nat.cast_ne_zero.mpr (List.length_pos_of_ne_nil hne).ne'
    rw [listSum_const K.2 c hall]
    field_simp
  rw [listSum_eq, hmap, List.sum_map_mul_right, hsum, one_mul]

/-- T11 (monotone).  The factors being non-negative, the run-level sum is monotone in the per-point values (hence
    non-decreasing in the Fermi level and between 0 and NB). -/
theorem run_total_monotone (Ks Ks' : List (Rat × List Rat))
    (h : List.Forall₂ (fun K K' => K.1 = K'.1 ∧ 0 ≤ K.1 ∧ K.2.length = K'.2.length ∧ List.Forall₂ (· ≤ ·) K.2 K'.2) Ks Ks') :
    runTotal Ks ≤ runTotal Ks' := by
  unfold runTotal
  apply listSum_le
  induction h with
  | nil => exact List.Forall₂.nil
  | cons hK _ ih =>
    obtain ⟨h1, h2, h3, h4⟩ := hK
    simp only [List.map_cons]
    refine List.Forall₂.cons ?_ ih
    rw [h1, h3]
    exact mul_le_mul_of_nonneg_left (div_le_div_of_nonneg_right (listSum_le _ _ h4) (Nat.cast_nonneg _)) (h1 ▸ h2)

/-! ## non-vacuity -/

/-- corners 0,1,2,3, Fermi level 3/2: half of the tetrahedron is below (both branches); DOS weight 3/4;
    (`mergeSort` is defined by well-founded recursion and does not reduce in the kernel, hence the rewrite) -/
example : weightsTetra (1 / 10 ^ 12 : Rat) 0 true 0 1 2 3 (3 / 2) = 1 / 2 := by
  unfold weightsTetra; rw [sort4_of_sorted (by norm_num) (by norm_num) (by norm_num)]; decide +kernel
example : weightsTetra (1 / 10 ^ 12 : Rat) 0 false 0 1 2 3 (3 / 2) = 1 / 2 := by
  unfold weightsTetra; rw [sort4_of_sorted (by norm_num) (by norm_num) (by norm_num)]; decide +kernel
example : weightsTetra (1 / 10 ^ 12 : Rat) 1 true 0 1 2 3 (3 / 2) = 3 / 4 := by
  unfold weightsTetra; rw [sort4_of_sorted (by norm_num) (by norm_num) (by norm_num)]; decide +kernel
/-- the hypotheses of `weightsTetra_is_spec_separated` are met by these corners -/
example : sort4 (0 : Rat) 1 2 3 = [0, 1, 2, 3] ∧ (1 / 10 ^ 12 : Rat) ≤ 1 - 0 :=
  ⟨sort4_of_sorted (by norm_num) (by norm_num) (by norm_num), by norm_num⟩
/-- coincident corners are separated -/
example : sep4 (1 / 8 : Rat) 1 1 1 2 = (1, 9 / 8, 5 / 4, 2) := by decide +kernel
/-- a 3-band k-point, Fermi window [0,1], all bands below ef = 1 (δ = 0, weights 1): CumDOS = 3 -/
example : tetraCumDOS (ofList [-2, 0, 1 / 2]) (ofList [-3, -1 / 4, 1 / 4]) (ofList [-1, 1 / 4, 3 / 4]) (1 / 100) 3 false
    0 1 (fun _ => 1) = 3 := by decide +kernel

end WB.C14
