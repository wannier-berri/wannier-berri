/-
  C20 — real-space symmetrisation yields a symmetric, Hermitian model: property theorems.

  Part A (T2): the marking loop of `SymWann.find_irreducible_Rab` (model: `WB.C20.findIrreducible`, the function
      the correspondence run executes) keeps exactly the first point — in iteration order — of every orbit,
      whenever the operation list is closed (reachability is symmetric and transitive: true for a group acting on
      a closed (R, a, b) set; corollary `irreducible_group_action` for a Mathlib `MulAction` of a finite group).
  Part B (T1, T3): averaging over a finite group acting additively on any space of real-space matrices is an idempotent
      projection onto the invariants, its result is invariant under every g, and it commutes with every additive
      involution that commutes with the action — in particular with `X(R) ↦ X(−R)†`, which commutes with
      `X ↦ D · X(σR) · D†` and with its time-reversed form `X ↦ D · conj X(σR) · D†`.
  Part C (T4): under the hypotheses on the code's ingredients collected in `BlockRep` (checked numerically on the real
      arrays by the oracle, not proved for `Dwann`), the block formula of `average_XX_block` / `_rotate_XX_L_backwards`
      IS that average; `model_entry_is_pull` ties it to the executable entry formula the correspondence check runs.
-/
import WB.Lemmas.C20Mark
import WB.Lemmas.C20Avg
import Mathlib.Data.Nat.Find
import Mathlib.GroupTheory.GroupAction.DomAct.Basic
import Mathlib.GroupTheory.Perm.Basic
import Mathlib.Data.Fintype.Perm
import Mathlib.Algebra.Group.Subgroup.Actions
import Mathlib.Tactic.NormNum

namespace WB.C20

/-! ## Part A — the irreducible (R, a, b) search -/

def Reach (ops : List (Nat → Option Nat)) (x y : Nat) : Prop := ∃ g ∈ ops, g x = some y

/-- T2.  If reachability through the operation list is symmetric and transitive (a group acting on a closed set),
    then after the marking loop a point is still flagged irreducible iff it is the first point, in iteration order,
    of its orbit. -/
theorem irreducible_iff_orbit_min (N : Nat) (ops : List (Nat → Option Nat))
    (hsymm : ∀ x y, x < N → Reach ops x y → Reach ops y x)
    (htrans : ∀ x y z, Reach ops x y → Reach ops y z → Reach ops x z)
    (x : Nat) (hx : x < N) :
    view (findIrreducible N ops) x = true ↔ ∀ y, Reach ops x y → x ≤ y := by
  classical
  -- a minimum of its orbit is never marked
  have keep : ∀ m, m < N → (∀ w, Reach ops m w → m ≤ w) → view (findIrreducible N ops) m = true := by
    intro m hm hmin
    cases hf : view (findIrreducible N ops) m
    · have h0 : view (List.replicate N true) m = true := by rw [view_replicate]; exact decide_eq_true hm
      obtain ⟨g, hg, w, hw, hgw, hlt⟩ := foldl_markOp_marked N ops _ m h0 hf
      exact absurd (hmin w (hsymm w m hw ⟨g, hg, hgw⟩)) (by omega)
    · rfl
  refine ⟨fun hirr y hy => ?_, keep x hx⟩
  by_contra hlt
  -- the first point `m` of the orbit of `x` is kept and some operation sends it to `x`, which is therefore marked
  have hex : ∃ z, Reach ops x z := ⟨y, hy⟩
  have hm_reach := Nat.find_spec hex
  have hm_first : ∀ w, Reach ops x w → Nat.find hex ≤ w := fun w hw => Nat.find_min' hex hw
  have hmx : Nat.find hex < x := by have := hm_first y hy; omega
  obtain ⟨g, hg, hgm⟩ := hsymm x _ hx hm_reach
  have hkeep := keep _ (by omega) fun w hw => hm_first w (htrans _ _ _ hm_reach hw)
  cases (marked_after N ops g hg _ x (by omega) hgm hmx _ hkeep).symm.trans hirr

/-- T2'.  Under the same hypotheses (plus: images stay inside the set, and every point reaches itself) each orbit
    keeps exactly one representative. -/
theorem one_representative_per_orbit (N : Nat) (ops : List (Nat → Option Nat))
    (hrefl : ∀ x, x < N → Reach ops x x)
    (hsymm : ∀ x y, x < N → Reach ops x y → Reach ops y x)
    (htrans : ∀ x y z, Reach ops x y → Reach ops y z → Reach ops x z)
    (hrange : ∀ x y, x < N → Reach ops x y → y < N)
    (x : Nat) (hx : x < N) :
    ∃ m, Reach ops x m ∧ view (findIrreducible N ops) m = true ∧
      ∀ m', Reach ops x m' → view (findIrreducible N ops) m' = true → m' = m := by
  classical
  have hex : ∃ z, Reach ops x z := ⟨x, hrefl x hx⟩
  have hm_reach : Reach ops x (Nat.find hex) := Nat.find_spec hex
  have hmN := hrange x _ hx hm_reach
  refine ⟨Nat.find hex, hm_reach, ?_, ?_⟩
  · rw [irreducible_iff_orbit_min N ops hsymm htrans _ hmN]
    exact fun w hw => Nat.find_min' hex (htrans _ _ _ hm_reach hw)
  · intro m' hm' hirr
    have hm'N := hrange x _ hx hm'
    rw [irreducible_iff_orbit_min N ops hsymm htrans _ hm'N] at hirr
    have h1 : Nat.find hex ≤ m' := Nat.find_min' hex hm'
    have h2 : m' ≤ Nat.find hex := hirr _ (htrans _ _ _ (hsymm x m' hx hm') hm_reach)
    omega

/-- T2 for an ordered pair of blocks.  The operations of `find_irreducible_Rab(block1, block2)` are the maps
    `pairAct np2 nR (map1 g) (map2 g) (rimg g)`: site `a` is moved by the atom map of block1, site `b` by the atom map of
    BLOCK2, the R-vector by `R ↦ g R + T1(a) − T2(b)`.  (The correspondence check builds these tables from the real
    `atommap_list[block1]`, `atommap_list[block2]`, `get_atom_R_map` and `index_R` for every ordered block pair.) -/
theorem irreducible_block_pair (np1 np2 nR : Nat)
    (ops : List ((Nat → Nat) × (Nat → Nat) × (Nat → Nat → Nat → Option Nat)))
    (hsymm : ∀ x y, x < np1 * np2 * nR →
      Reach (ops.map fun g => pairAct np2 nR g.1 g.2.1 g.2.2) x y → Reach (ops.map fun g => pairAct np2 nR g.1 g.2.1 g.2.2) y x)
    (htrans : ∀ x y z, Reach (ops.map fun g => pairAct np2 nR g.1 g.2.1 g.2.2) x y →
      Reach (ops.map fun g => pairAct np2 nR g.1 g.2.1 g.2.2) y z → Reach (ops.map fun g => pairAct np2 nR g.1 g.2.1 g.2.2) x z)
    (x : Nat) (hx : x < np1 * np2 * nR) :
    view (findIrreducible (np1 * np2 * nR) (ops.map fun g => pairAct np2 nR g.1 g.2.1 g.2.2)) x = true ↔
      ∀ y, Reach (ops.map fun g => pairAct np2 nR g.1 g.2.1 g.2.2) x y → x ≤ y :=
  irreducible_iff_orbit_min _ _ hsymm htrans x hx

/-- two different two-site blocks, one R-vector; the operation swaps the sites of block A and fixes those of block B.
    With each block's own map the triple (a₀,b₀) (index 0) is sent to (a₁,b₀) (index 2); with block A's map used for both
    sites it would be sent to (a₁,b₁) (index 3), a triple of a different orbit. -/
example :
    let swap : Nat → Nat := fun a => 1 - a
    let fix : Nat → Nat := fun b => b
    let e : Nat → Nat := fun a => a
    findIrreducible 4 [pairAct 2 1 e e (fun _ _ _ => some 0), pairAct 2 1 swap fix (fun _ _ _ => some 0)]
      = [true, true, false, false] ∧
    findIrreducible 4 [pairAct 2 1 e e (fun _ _ _ => some 0), pairAct 2 1 swap swap (fun _ _ _ => some 0)]
      = [true, true, false, false] ∧
    pairAct 2 1 swap fix (fun _ _ _ => some 0) 0 = some 2 ∧ pairAct 2 1 swap swap (fun _ _ _ => some 0) 0 = some 3 := by
  decide +kernel

/-- an operation of a group acting on the `N` points, in the form the model consumes -/
def actOf {G : Type} {N : Nat} [Group G] [MulAction G (Fin N)] (g : G) : Nat → Option Nat :=
  fun x => if h : x < N then some ((g • (⟨x, h⟩ : Fin N)).val) else none

/-- T2 for a group action: if the listed operations are all the elements of a group acting on the set of points,
    the loop keeps exactly the points that are minimal in their orbit. -/
theorem irreducible_group_action {G : Type} {N : Nat} [Group G] [MulAction G (Fin N)]
    (ops : List G) (hall : ∀ g : G, g ∈ ops) (x : Fin N) :
    view (findIrreducible N (ops.map (actOf (N := N)))) x.val = true ↔ ∀ g : G, x ≤ g • x := by
  set acts := ops.map (actOf (N := N)) with hacts
  -- reachability through the listed maps is the orbit relation of the action
  have reach : ∀ a b, Reach acts a b ↔ ∃ ha : a < N, ∃ g : G, (g • (⟨a, ha⟩ : Fin N)).val = b := by
    intro a b
    by_cases ha : a < N <;> simp only [hacts, Reach, List.mem_map, hall, true_and, exists_exists_eq_and, actOf, ha,
      ↓reduceDIte, Option.some.injEq, exists_true_left, reduceCtorEq, exists_const, IsEmpty.exists_iff]
  have hsymm : ∀ a b, a < N → Reach acts a b → Reach acts b a := by
    intro a b _ h
    obtain ⟨ha, g, rfl⟩ := (reach a b).1 h
    exact (reach _ a).2 ⟨(g • (⟨a, ha⟩ : Fin N)).isLt, g⁻¹, by rw [Fin.eta, inv_smul_smul]⟩
  have htrans : ∀ a b c, Reach acts a b → Reach acts b c → Reach acts a c := by
    intro a b c h1 h2
    obtain ⟨ha, g, rfl⟩ := (reach a b).1 h1
    obtain ⟨_, g', rfl⟩ := (reach _ c).1 h2
    exact (reach a _).2 ⟨ha, g' * g, by rw [mul_smul]⟩
  rw [irreducible_iff_orbit_min N _ hsymm htrans x.val x.isLt]
  constructor
  · exact fun h g => Fin.le_def.2 (h _ ((reach _ _).2 ⟨x.isLt, g, rfl⟩))
  · intro h y hy
    obtain ⟨_, g, rfl⟩ := (reach _ _).1 hy
    exact Fin.le_def.1 (h g)

/-- non-vacuity / concrete run: 6 points, the cyclic group generated by (0 1 2)(3 4 5) listed with the identity:
    orbits {0,1,2}, {3,4,5}; the loop keeps 0 and 3. -/
example :
    let r : Nat → Option Nat := fun x => if x < 6 then some ((x / 3) * 3 + (x + 1) % 3) else none
    let r2 : Nat → Option Nat := fun x => if x < 6 then some ((x / 3) * 3 + (x + 2) % 3) else none
    let e : Nat → Option Nat := fun x => if x < 6 then some x else none
    findIrreducible 6 [e, r, r2] = [true, false, false, true, false, false] ∧
    findIrreducible 6 [r2, e, r] = [true, false, false, true, false, false] := by
  decide +kernel

/-- without closure under inverses the conclusion fails (so the hypothesis is needed): with only the rotation
    `x ↦ x+2 mod 3` listed, point 1 is hit from 2 (a larger point) only, and survives although 0 is in its orbit. -/
example :
    let r2 : Nat → Option Nat := fun x => if x < 3 then some ((x + 2) % 3) else none
    findIrreducible 3 [r2] = [true, true, false] := by
  decide +kernel

/-! ## Part B — group averaging -/

section avg
variable {G V K : Type*} [Group G] [Fintype G] [AddCommGroup V] [DistribMulAction G V]
  [DivisionRing K] [Module K V]

theorem avgN_card (v : V) : avgN G (Fintype.card G : K) v = avg G K v := rfl

theorem sum_smul_reindex (h : G) (v : V) : ∑ g : G, (h * g) • v = ∑ g : G, g • v :=
  Fintype.sum_equiv (Equiv.mulLeft h) _ _ (fun _ => rfl)

/-- T1a.  Invariant objects are left unchanged (the average is a projection *onto* the invariants). -/
theorem avg_of_invariant (hcard : (Fintype.card G : K) ≠ 0) (v : V) (hv : ∀ g : G, g • v = v) :
    avg G K v = v := by
  rw [← avgN_card, avgN_of_invariant _ v hv, inv_mul_cancel₀ hcard, one_smul]

/-- T3.  The average commutes with every additive map `J` that commutes with the scalars and with every operation —
    e.g. `J X (R) = X(−R)†`. -/
theorem avg_comm (J : V →+ V) (hJK : ∀ (c : K) v, J (c • v) = c • J v) (hJg : ∀ (g : G) v, J (g • v) = g • J v)
    (v : V) : J (avg G K v) = avg G K (J v) := by
  unfold avg
  rw [hJK, map_sum]
  simp only [hJg]

/-- T3'.  Hence a Hermitian input (`J v = v`) gives a Hermitian symmetrised output. -/
theorem avg_hermitian (J : V →+ V) (hJK : ∀ (c : K) v, J (c • v) = c • J v)
    (hJg : ∀ (g : G) v, J (g • v) = g • J v) (v : V) (hv : J v = v) : J (avg G K v) = avg G K v := by
  rw [avg_comm J hJK hJg, hv]

variable [SMulCommClass G K V]

theorem smul_avgN (n : K) (h : G) (v : V) : h • avgN G n v = avgN G n v := by
  unfold avgN
  rw [smul_comm, Finset.smul_sum]
  congr 1
  simp only [← mul_smul]
  exact sum_smul_reindex h v

/-- T1b.  The average is invariant under every operation of the group. -/
theorem smul_avg (h : G) (v : V) : h • avg G K v = avg G K v := smul_avgN _ h v

/-- T1c.  Symmetrising twice changes nothing. -/
theorem avg_idem (hcard : (Fintype.card G : K) ≠ 0) (v : V) : avg G K (avg G K v) = avg G K v :=
  avg_of_invariant hcard _ (fun g => smul_avg g v)

/-! ### the normalisation is part of the statement -/

theorem avgN_avgN (n : K) (v : V) :
    avgN G n (avgN G n v) = (n⁻¹ * (Fintype.card G : K)) • avgN G n v :=
  avgN_of_invariant n _ fun g => smul_avgN n g v

/-- T1d.  Dividing the sum over the selected operations by any count `n` is idempotent (on an input whose
    symmetrised value is not zero) **only if** `n` is the number of operations summed over. -/
theorem avgN_idem_iff (n : K) (hn : n ≠ 0) (v : V) (hw : avgN G n v ≠ 0) :
    avgN G n (avgN G n v) = avgN G n v ↔ n = (Fintype.card G : K) := by
  rw [avgN_avgN, ← inv_mul_eq_one₀ hn]
  exact ⟨fun h => smul_left_injective K hw (h.trans (one_smul K _).symm), fun h => by rw [h, one_smul]⟩

/-- T1 for a selected subgroup: the theorems above apply verbatim to `H ≤ G` acting by restriction, with the
    count `|H|` -/
theorem avg_subgroup_idem {G₀ : Type*} [Group G₀] [DistribMulAction G₀ V] [SMulCommClass G₀ K V]
    (H : Subgroup G₀) [Fintype H] (hcard : (Fintype.card H : K) ≠ 0) (v : V) :
    avg H K (avg H K v) = avg H K v :=
  avg_idem hcard v

/-- with the count of the full group instead of `|H|`, the subgroup "average" is idempotent only when the two
    counts agree in `K` -/
theorem subgroup_wrong_count {G₀ : Type*} [Group G₀] [Fintype G₀] [DistribMulAction G₀ V] [SMulCommClass G₀ K V]
    (H : Subgroup G₀) [Fintype H] (hG : (Fintype.card G₀ : K) ≠ 0) (v : V)
    (hw : avgN H (Fintype.card G₀ : K) v ≠ 0) :
    avgN H (Fintype.card G₀ : K) (avgN H (Fintype.card G₀ : K) v) = avgN H (Fintype.card G₀ : K) v
      ↔ (Fintype.card G₀ : K) = (Fintype.card H : K) :=
  avgN_idem_iff _ hG v hw

end avg

/-! ### the concrete shape of the operations: `J` commutes with them -/

section dagger
open Matrix
variable {ι n K : Type*} [Neg ι] [Fintype n] [CommRing K] [StarRing K]

/-- `X(R) ↦ X(−R)†` -/
def dagger (X : ι → Matrix n n K) : ι → Matrix n n K := fun r => (X (-r))ᴴ

/-- a unitary-type operation: `X(R) ↦ D · X(σR) · D†` -/
def opU (D : Matrix n n K) (σ : ι → ι) (X : ι → Matrix n n K) : ι → Matrix n n K := fun r => D * X (σ r) * Dᴴ

/-- an antiunitary-type operation (time reversal): `X(R) ↦ D · conj X(σR) · D†` -/
def opA (D : Matrix n n K) (σ : ι → ι) (X : ι → Matrix n n K) : ι → Matrix n n K :=
  fun r => D * (X (σ r)).map star * Dᴴ

/-- `σ(−R) = −σR`: rotations of lattice vectors are linear -/
theorem dagger_opU (D : Matrix n n K) (σ : ι → ι) (hσ : ∀ r, σ (-r) = -σ r) (X : ι → Matrix n n K) :
    dagger (opU D σ X) = opU D σ (dagger X) := by
  funext r
  simp only [dagger, opU, conjTranspose_mul, conjTranspose_conjTranspose, hσ, Matrix.mul_assoc]

theorem dagger_opA (D : Matrix n n K) (σ : ι → ι) (hσ : ∀ r, σ (-r) = -σ r) (X : ι → Matrix n n K) :
    dagger (opA D σ X) = opA D σ (dagger X) := by
  have hmap : ∀ M : Matrix n n K, (M.map star)ᴴ = Mᴴ.map star := by
    intro M; ext i j; simp [conjTranspose_apply]
  funext r
  simp only [dagger, opA, conjTranspose_mul, conjTranspose_conjTranspose, hσ, Matrix.mul_assoc, hmap]

end dagger

section nonvacuous
noncomputable local instance : Fintype (Equiv.Perm (Fin 3))ᵈᵐᵃ := Fintype.ofEquiv _ DomMulAct.mk

/-- non-vacuity of Part B: the six permutations of three sites acting on `Fin 3 → ℚ` by relabelling satisfy every
    instance hypothesis (`DistribMulAction`, `SMulCommClass`, `|G| ≠ 0`), so T1c applies to them -/
example (v : Fin 3 → ℚ) :
    avg (Equiv.Perm (Fin 3))ᵈᵐᵃ ℚ (avg (Equiv.Perm (Fin 3))ᵈᵐᵃ ℚ v) = avg (Equiv.Perm (Fin 3))ᵈᵐᵃ ℚ v :=
  avg_idem (Nat.cast_ne_zero.2 Fintype.card_ne_zero) v

/-- counterexample documenting T1d: summing over the 6 relabellings but dividing by 12 (the order of a group twice as
    large) halves the constant vector at every pass — the result is invariant but the map is not idempotent -/
theorem wrong_count_not_idempotent :
    avgN (Equiv.Perm (Fin 3))ᵈᵐᵃ (12 : ℚ) (avgN (Equiv.Perm (Fin 3))ᵈᵐᵃ (12 : ℚ) (fun _ : Fin 3 => (1 : ℚ)))
      ≠ avgN (Equiv.Perm (Fin 3))ᵈᵐᵃ (12 : ℚ) (fun _ : Fin 3 => (1 : ℚ)) := by
  have hcard : Fintype.card (Equiv.Perm (Fin 3))ᵈᵐᵃ = 6 := by
    rw [← Fintype.card_congr (DomMulAct.mk (M := Equiv.Perm (Fin 3))), Fintype.card_perm]; rfl
  have hval := avgN_of_invariant (G := (Equiv.Perm (Fin 3))ᵈᵐᵃ) (12 : ℚ) (fun _ : Fin 3 => (1 : ℚ)) fun _ => rfl
  intro h
  have hne : avgN (Equiv.Perm (Fin 3))ᵈᵐᵃ (12 : ℚ) (fun _ : Fin 3 => (1 : ℚ)) ≠ 0 := by
    rw [hval, hcard]; intro h0
    have := congrFun h0 0
    norm_num at this
  have := (avgN_idem_iff (12 : ℚ) (by norm_num) _ hne).1 h
  rw [hcard] at this
  norm_num at this
end nonvacuous

/-! ## Part C — `average_XX_block` IS that group average

  `BlockRep` (in `Lemmas/C20Avg.lean`) lists what the code's ingredients must satisfy: the atom maps are group actions, the
  home-cell translations satisfy a cocycle rule, the orbital matrices the (co)representation rule with a unimodular phase
  common to both blocks, `tr` and the real Cartesian matrices `Rc` (rotation × parity signs) are homomorphisms.  Under
  exactly these hypotheses `g • X := pull g⁻¹ X` is an additive group action and the sum the code forms is its average. -/

section block
variable {G ι A₁ A₂ n₁ n₂ c K : Type*} [Group G] [Fintype G] [AddCommGroup ι] [DistribMulAction G ι]
    [MulAction G A₁] [MulAction G A₂] [Fintype n₁] [Fintype n₂] [DecidableEq n₁] [DecidableEq n₂]
    [Fintype c] [DecidableEq c] [Field K] [StarRing K] [CharZero K]
variable (S : BlockRep G ι A₁ A₂ n₁ n₂ c K)

/-- mode "sum" of `average_XX_block`: every listed operation `g` adds its back-rotated contribution `pull g X` to the
    entry `(R, a, b)`, and the total is divided by the number of operations -/
noncomputable def blockAverage (X : BlockFn S) : BlockFn S := ((Fintype.card G : ℚ)⁻¹) • ∑ g : G, pull S g X

/-- T4.  The block formula the code evaluates is the group average `avg` of the action
    `g • X = pull g⁻¹ X` (the code sums the pull-backs by `g`, the average sums the images under `g`; the two sums are
    reindexed by `g ↦ g⁻¹`, which is why the operation list must be closed under inverses). -/
theorem average_block_is_group_average (X : BlockFn S) : blockAverage S X = avg G ℚ X := by
  unfold blockAverage avg
  congr 1
  exact Fintype.sum_equiv (Equiv.inv G) _ _ (fun g => by rw [smul_def]; simp)

theorem blockAverage_invariant (g : G) (X : BlockFn S) : g • blockAverage S X = blockAverage S X := by
  rw [average_block_is_group_average]; exact smul_avg g X

theorem blockAverage_of_invariant (X : BlockFn S) (hX : ∀ g : G, g • X = X) : blockAverage S X = X := by
  rw [average_block_is_group_average]
  exact avg_of_invariant (Nat.cast_ne_zero.2 Fintype.card_ne_zero) X hX

theorem blockAverage_idem (X : BlockFn S) : blockAverage S (blockAverage S X) = blockAverage S X := by
  simp only [average_block_is_group_average]
  exact avg_idem (Nat.cast_ne_zero.2 Fintype.card_ne_zero) X

end block

section blockherm
open Matrix
variable {G ι A n c K : Type*} [Group G] [Fintype G] [AddCommGroup ι] [DistribMulAction G ι]
    [MulAction G A] [Fintype n] [DecidableEq n] [Fintype c] [DecidableEq c] [Field K] [StarRing K] [CharZero K]
variable (S : BlockRep G ι A A n n c K)

/-- `X(R)_{ab} ↦ (X(−R)_{ba})†` on a diagonal block pair -/
def blockDagger (X : BlockFn S) : BlockFn S := fun R a b i => (X (-R) b a i)ᴴ

omit [Fintype G] [CharZero K] in
theorem blockDagger_pull (hT : S.T₁ = S.T₂) (hD : S.D₁ = S.D₂) (h : G) (X : BlockFn S) :
    blockDagger S (pull S h X) = pull S h (blockDagger S X) := by
  funext R a b i
  have hpos : h • (-R) + S.T₂ h b - S.T₂ h a = -(h • R + S.T₂ h a - S.T₂ h b) := by
    rw [smul_neg, neg_sub, neg_add_eq_sub, sub_sub]
  show (pull S h X (-R) b a i)ᴴ = pull S h (blockDagger S X) R a b i
  rw [pull_eq, pull_eq, rotateBack_conjTranspose _ _ _ _ (S.Rc_real h), hT, hD, hpos]
  rfl

/-- T4'.  The code's block average of a Hermitian model is Hermitian. -/
theorem blockAverage_hermitian (hT : S.T₁ = S.T₂) (hD : S.D₁ = S.D₂) (X : BlockFn S)
    (hX : blockDagger S X = X) : blockDagger S (blockAverage S X) = blockAverage S X := by
  let J : BlockFn S →+ BlockFn S := AddMonoidHom.mk' (blockDagger S) fun X Y => by
    funext R a b i; exact conjTranspose_add _ _
  have hJK : ∀ (q : ℚ) (v : BlockFn S), J (q • v) = q • J v := fun q v => by
    funext R a b i; exact conjTranspose_rat_smul q _
  rw [average_block_is_group_average]
  exact avg_hermitian J hJK (fun g v => blockDagger_pull S hT hD g⁻¹ v) X hX

end blockherm

section bridge
variable {K : Type} [Field K] [StarRing K]
variable {G ι A₁ A₂ : Type} {N1 N2 NC : Nat} [Group G] [AddCommGroup ι] [DistribMulAction G ι]
    [MulAction G A₁] [MulAction G A₂]

/-- T4''.  The executable entry formula of the model (`WB.C20.pullEntry`, compared number by number with the real
    `average_XX_block` / `_rotate_XX_L_backwards` by the correspondence check) is the `(p, q)` entry of `pull` — the
    object of T4.  So "model = code" on the tested inputs plus T4 gives "code = group average" there. -/
theorem model_entry_is_pull (S : BlockRep G ι A₁ A₂ (Fin N1) (Fin N2) (Fin NC) K) (h : G) (X : BlockFn S)
    (R : ι) (a : A₁) (b : A₂) (i : Fin NC) (p : Fin N1) (q : Fin N2) :
    pull S h X R a b i p q =
      pullEntry star (S.tr h) N1 N2 NC (ext2 (S.Rc h)) (ext2 (S.D₁ h a)) (ext2 (S.D₂ h b))
        (fun j r s => if hj : j < NC then
            ext2 (X (h • R + S.T₁ h a - S.T₂ h b) (h • a) (h • b) ⟨j, hj⟩) r s else 0)
        i.val p.val q.val :=
  rotateBack_apply _ _ _ _ _ i p q

end bridge

end WB.C20
