/-
  C13 — Fermi-level scans have the documented sea and surface semantics: property theorems.
  (Helper lemmas: WB/Lemmas/C13*.lean.)

  Vocabulary:  a `Group` (model) is (energy, value) with energy `none` = -inf (the lumped group of bands
  below the Fermi window);  `stepSum groups x = Σ_{g : energy(g) ≤ x} value(g)` (C13Step) — whole groups in or out.
  `Uniform Ef n` (C13Sea) : `Ef j = Ef 0 + j · dEF` for `j < n`, `dEF` the spacing the code uses (`Efermi[1]-Efermi[0]`, or
  0.001 for a single Fermi level).  Scalars `constant_factor / cell_volume` multiply every statement and are omitted.
-/
import WB.Lemmas.C13CumDOS

namespace WB.C13

/-! ## Fermi-sea semantics -/

/-- T1.  On a uniform grid with spacing `d > 0` the bin index `ceil((E - EFmin)/d)` is `≤ j` exactly when
    `E ≤ EFmin + j·d`. -/
theorem bin_is_step (efmin d E : Rat) (hd : 0 < d) (j : Nat) :
    iEf efmin d E ≤ (j : Int) ↔ E ≤ efmin + (j : Rat) * d := by
  rw [iEf_le_iff efmin d E hd j, Int.cast_natCast]

/-- T1 (ties).  In exact arithmetic a state lying exactly on a Fermi level, `E = EFmin + j·d`, has bin index exactly `j`:
    it is counted at that Fermi level and all later ones (`ceil` ⇒ the convention is `E ≤ Ef_j`).  (In floating point
    with a non-dyadic spacing `fl((E - EFmin)/d)` may land just above `j`, which moves the state to bin `j+1`;
    that rounding is outside the model, see `TRUSTED` in harness/props/c13.py.) -/
theorem tie_is_counted (efmin d : Rat) (hd : 0 < d) (j : Nat) :
    iEf efmin d (efmin + (j : Rat) * d) = (j : Int) := by
  unfold iEf
  rw [add_sub_cancel_left, mul_div_assoc, div_self hd.ne', mul_one, ← Int.cast_natCast, Rat.ceil_intCast]

/-- T1 (accumulation).  `restot[j]` (before any finite difference) is the sum of the values of exactly the
    groups whose energy is `≤ EFmin + j·d`, every group counted whole, for every bin `j` of the (extended) grid. -/
theorem accumulation_is_step_sum (efmin efmax d : Rat) (hd : 0 < d) (groups : List Group) (j : Nat)
    (hj : efmin + (j : Rat) * d ≤ efmax) :
    accumulate efmin efmax d groups j = stepSum groups (efmin + (j : Rat) * d) := by
  have hw : efmin ≤ efmax := (le_add_of_nonneg_right (mul_nonneg (Nat.cast_nonneg j) hd.le)).trans hj
  rw [accumulate_eq_stepSum efmin efmax d hd hw, min_eq_left hj]

/-- T1 (calculator).  A Fermi-sea calculator (`fder = 0`, any formula values `v`, any degeneracy threshold / Kramers
    flag) at the Fermi level `Ef_j` of a uniform grid returns, for every k-point, the sum of the formula values
    over the groups of `get_bands_in_range_groups_ik` with (mean) energy `≤ Ef_j`, the lumped group of the bands
    below the window included. -/
theorem sea_calculator_is_step_sum (Ef : Nat → Rat) (nEf : Nat) (hu : Uniform Ef nEf) (hd : 0 < dEF Ef nEf)
    (E : Nat → Rat) (th : Rat) (nb : Nat) (kr : Bool) (v : Nat × Nat → Rat) (j : Nat) (hj : j < nEf) :
    resolved 0 Ef nEf (calcK 0 Ef nEf E th nb kr none v) j =
      stepSum (groupsWithValues E th nb kr (Ef 0) (Ef (nEf - 1)) true none v) (Ef j) := by
  rw [resolved_zero_eq_stepSum Ef nEf hu hd _ j hj, calcK_zero]

/-! ## cumulative DOS (Identity formula: the value of a group is its size) -/

/-- T2 (monotone).  The CumDOS contribution of a k-point is non-decreasing along the Fermi grid. -/
theorem cumdos_monotone (Ef : Nat → Rat) (nEf : Nat) (hu : Uniform Ef nEf) (hd : 0 < dEF Ef nEf)
    (E : Nat → Rat) (th : Rat) (nb : Nat) (kr : Bool) (j j' : Nat) (hjj : j ≤ j') (hj : j' < nEf) :
    cumdosK Ef nEf E th nb kr j ≤ cumdosK Ef nEf E th nb kr j' := by
  unfold cumdosK
  rw [sea_calculator_is_step_sum Ef nEf hu hd E th nb kr _ j (by omega),
    sea_calculator_is_step_sum Ef nEf hu hd E th nb kr _ j' hj]
  exact stepSum_mono _ (values_sizeOf_nonneg E th nb kr _ _ true) (hu.le hd.le hjj hj)

/-- T2 (below).  If `Ef_j` is below all bands of the k-point the contribution is 0. -/
theorem cumdos_zero_below (Ef : Nat → Rat) (nEf : Nat) (hu : Uniform Ef nEf) (hd : 0 < dEF Ef nEf)
    (E : Nat → Rat) (th : Rat) (nb : Nat) (kr : Bool) (hk : kr = true → nb % 2 = 0) (j : Nat) (hj : j < nEf)
    (hbelow : ∀ i, i < nb → Ef j < E i) :
    cumdosK Ef nEf E th nb kr j = 0 := by
  unfold cumdosK
  rw [sea_calculator_is_step_sum Ef nEf hu hd E th nb kr _ j hj]
  exact stepSum_below E th nb kr hk _ _ true none sizeOf _ (hu.le hd.le (Nat.zero_le j) hj) hbelow

/-- T2 (above).  If `Ef_j` is above all bands of the k-point (energies sorted ascending, as `eigh` returns them; an
    even number of bands when Kramers pairs are requested) the contribution is the number of bands: every band lies
    in exactly one counted group. -/
theorem cumdos_NB_above (Ef : Nat → Rat) (nEf : Nat) (hu : Uniform Ef nEf) (hd : 0 < dEF Ef nEf)
    (E : Nat → Rat) (th : Rat) (nb : Nat) (kr : Bool) (hk : kr = true → nb % 2 = 0)
    (hsorted : ∀ i i', i ≤ i' → i' < nb → E i ≤ E i') (j : Nat) (hj : j < nEf)
    (habove : ∀ i, i < nb → E i ≤ Ef j) :
    cumdosK Ef nEf E th nb kr j = (nb : Rat) := by
  unfold cumdosK
  rw [sea_calculator_is_step_sum Ef nEf hu hd E th nb kr _ j hj]
  exact stepSum_sizeOf_above E th nb kr hk hsorted _ _ _ (hu.le hd.le (by omega) (by omega)) habove

/-- T2 (k-average).  The reported CumDOS is the mean over the k-points of the per-k contributions. -/
theorem cumdos_is_k_average (Ef : Nat → Rat) (nEf : Nat) (th : Rat) (kr : Bool) (ks : List (Nat → Rat)) (nb : Nat)
    (j : Nat) :
    unresolved 0 Ef nEf (ks.map (fun E => calcK 0 Ef nEf E th nb kr none sizeOf)) j =
      ((ks.map (fun E => cumdosK Ef nEf E th nb kr j)).sum) / (ks.length : Rat) :=
  unresolved_map 0 Ef nEf _ ks j

/-! ## derivatives of the Fermi distribution = central differences of the Fermi sea -/

/-- T3.  For `fder = 1, 2, 3` and a uniform Fermi grid the reported result is the code's stencil applied to the result
    of the Fermi-sea calculator (`fder = 0`, same formula, same thresholds) on the grid extended by `extraEf` points on
    both sides; the lumped group `(0, bandmax)` is constant along the grid and cancels. -/
theorem surface_is_fd_of_sea (fder : Nat) (h1 : 1 ≤ fder) (h3 : fder ≤ 3) (Ef : Nat → Rat) (n : Nat)
    (hn : 0 < n) (hu : Uniform Ef n) (th : Rat) (kr : Bool) (ks : List KPoint) (j : Nat) :
    unresolved fder Ef n (ks.map (fun k => calcK fder Ef n k.1 th k.2.1 kr none k.2.2)) j =
      stencil fder (dEF Ef n)
        (fun i => unresolved 0 (extGrid fder Ef n) (nEFextra n fder)
          (ks.map (fun k => calcK 0 (extGrid fder Ef n) (nEFextra n fder) k.1 th k.2.1 kr none k.2.2)) i) j :=
  surface_is_fd_of_sea_unresolved fder h1 Ef n hn hu th kr none ks j

/-- T3 (k-resolved). -/
theorem surface_is_fd_of_sea_kresolved (fder : Nat) (h1 : 1 ≤ fder) (h3 : fder ≤ 3) (Ef : Nat → Rat) (n : Nat)
    (hn : 0 < n) (hu : Uniform Ef n) (E : Nat → Rat) (th : Rat) (nb : Nat) (kr : Bool) (v : Nat × Nat → Rat)
    (j : Nat) :
    resolved fder Ef n (calcK fder Ef n E th nb kr none v) j =
      stencil fder (dEF Ef n)
        (fun i => resolved 0 (extGrid fder Ef n) (nEFextra n fder)
          (calcK 0 (extGrid fder Ef n) (nEFextra n fder) E th nb kr none v) i) j :=
  surface_is_fd_of_sea_resolved fder h1 Ef n hn hu E th nb kr none v j

/-- T3 (the stencils are the central differences).  With `S` the Fermi-sea step sum and `d = dEF > 0`:
    `fder = 1` gives `(S(Ef_j + d) - S(Ef_j - d)) / (2d)`. -/
theorem fder1_is_first_central_difference (Ef : Nat → Rat) (n : Nat) (hn : 0 < n) (hu : Uniform Ef n)
    (hd : 0 < dEF Ef n) (E : Nat → Rat) (th : Rat) (nb : Nat) (kr : Bool) (v : Nat × Nat → Rat) (j : Nat)
    (hj : j < n) :
    let S := stepSum (groupsWithValues E th nb kr (EFmin Ef n 1) (EFmax Ef n 1) true none v)
    let d := dEF Ef n
    resolved 1 Ef n (calcK 1 Ef n E th nb kr none v) j = (S (Ef j + d) - S (Ef j - d)) / (2 * d) := by
  intro S d
  rw [fder_is_central_difference 1 le_rfl Ef n hn hu hd E th nb kr none v j hj, stencil_1,
    extGrid_above 1 Ef n hu hj (j + 2) 1 rfl, extGrid_below 1 Ef n hu hj j 1 rfl, Nat.cast_one, one_mul]

/-- `fder = 2` gives `(S(Ef_j + d) + S(Ef_j - d) - 2 S(Ef_j)) / d²`. -/
theorem fder2_is_second_central_difference (Ef : Nat → Rat) (n : Nat) (hn : 0 < n) (hu : Uniform Ef n)
    (hd : 0 < dEF Ef n) (E : Nat → Rat) (th : Rat) (nb : Nat) (kr : Bool) (v : Nat × Nat → Rat) (j : Nat)
    (hj : j < n) :
    let S := stepSum (groupsWithValues E th nb kr (EFmin Ef n 2) (EFmax Ef n 2) true none v)
    let d := dEF Ef n
    resolved 2 Ef n (calcK 2 Ef n E th nb kr none v) j = (S (Ef j + d) + S (Ef j - d) - 2 * S (Ef j)) / (d * d) := by
  intro S d
  rw [fder_is_central_difference 2 (by decide) Ef n hn hu hd E th nb kr none v j hj, stencil_2,
    extGrid_above 2 Ef n hu hj (j + 2) 1 rfl, extGrid_below 2 Ef n hu hj j 1 rfl,
    extGrid_above 2 Ef n hu hj (j + 1) 0 rfl, Nat.cast_one, one_mul, Nat.cast_zero, zero_mul, add_zero]

/-- `fder = 3` gives the five-point third difference
    `(S(Ef_j + 2d) - S(Ef_j - 2d) - 2 (S(Ef_j + d) - S(Ef_j - d))) / (2d³)`. -/
theorem fder3_is_third_central_difference (Ef : Nat → Rat) (n : Nat) (hn : 0 < n) (hu : Uniform Ef n)
    (hd : 0 < dEF Ef n) (E : Nat → Rat) (th : Rat) (nb : Nat) (kr : Bool) (v : Nat × Nat → Rat) (j : Nat)
    (hj : j < n) :
    let S := stepSum (groupsWithValues E th nb kr (EFmin Ef n 3) (EFmax Ef n 3) true none v)
    let d := dEF Ef n
    resolved 3 Ef n (calcK 3 Ef n E th nb kr none v) j =
      (S (Ef j + 2 * d) - S (Ef j - 2 * d) - 2 * (S (Ef j + d) - S (Ef j - d))) / (2 * (d * d * d)) := by
  intro S d
  rw [fder_is_central_difference 3 (by decide) Ef n hn hu hd E th nb kr none v j hj, stencil_3,
    extGrid_above 3 Ef n hu hj (j + 4) 2 rfl, extGrid_below 3 Ef n hu hj j 2 rfl,
    extGrid_above 3 Ef n hu hj (j + 3) 1 rfl, extGrid_below 3 Ef n hu hj (j + 1) 1 rfl, Nat.cast_one, one_mul,
    Nat.cast_ofNat]

/-! ## k-resolved -/

/-- T4.  The mean over the k-points of the k-resolved result equals the unresolved result, for every derivative
    order, Fermi grid and group content (the unresolved result is divided by `nk`, the resolved one is not). -/
theorem kresolved_mean (fder : Nat) (Ef : Nat → Rat) (n : Nat) (ks : List (List Group)) (j : Nat) :
    ((ks.map (fun g => resolved fder Ef n g j)).sum) / (ks.length : Rat) = unresolved fder Ef n ks j := by
  have h := unresolved_map fder Ef n id ks j
  rw [List.map_id] at h
  exact h.symm

/-! ## glue: scalars, hole-like flag, value assembly, shared Data_K, non-uniform grids -/

/-- T5 (scalars).  The reported number is `constant_factor_eff / (nk · cell_volume)` times the stencil of the k-summed
    accumulation. -/
theorem result_normalisation (cf vol : Rat) (h u : Bool) (fder : Nat) (Ef : Nat → Rat) (n : Nat)
    (ks : List (List Group)) (j : Nat) :
    fullUnresolved cf vol h u fder Ef n ks j =
      effFactor cf h fder u / ((ks.length : Rat) * vol) *
        stencil fder (dEF Ef n)
          (sumK (ks.map (fun g => accumulate (EFmin Ef n fder) (EFmax Ef n fder) (dEF Ef n) g))) j := by
  unfold fullUnresolved unresolved
  rw [div_div, div_mul_eq_mul_div, div_mul_eq_mul_div, mul_comm]

/-- T5 (`_DOS` classes).  CumDOS / DOS multiply by `cell_volume` again, so they do not depend on it. -/
theorem dos_class_volume_free (vol : Rat) (hv : vol ≠ 0) (fder : Nat) (Ef : Nat → Rat) (n : Nat)
    (ks : List (List Group)) (j : Nat) :
    dosClass vol fder Ef n ks j = unresolved fder Ef n ks j := by
  unfold dosClass fullUnresolved
  rw [show effFactor 1 false fder true = 1 from rfl, mul_one, div_mul_cancel₀ _ hv]

/-- T5 (hole-like, no tetrahedra).  `hole_like=True` changes a Fermi-sea calculator only by the overall sign
    (`constant_factor *= -1`): the sum still runs over the states BELOW the Fermi level.  (With `tetra=True` the same
    flag selects the states ABOVE the level — C14, `der = -1`.) -/
theorem hole_like_is_sign_flip (cf vol : Rat) (u : Bool) (Ef : Nat → Rat) (n : Nat) (ks : List (List Group)) (j : Nat) :
    fullUnresolved cf vol true u 0 Ef n ks j = - fullUnresolved cf vol false u 0 Ef n ks j := by
  unfold fullUnresolved
  rw [effFactor_hole]; ring

/-- T5 (hole-like, `fder ≥ 1`).  The flag has no effect. -/
theorem hole_like_ignored_for_surface (cf vol : Rat) (u : Bool) (fder : Nat) (hf : 1 ≤ fder) (Ef : Nat → Rat) (n : Nat)
    (ks : List (List Group)) (j : Nat) :
    fullUnresolved cf vol true u fder Ef n ks j = fullUnresolved cf vol false u fder Ef n ks j := by
  unfold fullUnresolved
  rw [effFactor_hole_pos cf u fder hf]

/-- T6 (value assembly).  For a formula whose trace is additive over adjacent band ranges the two branches of
    `__call__` (`formula.additive` True / False) assign the same value to every group. -/
theorem assembly_agree (tr : Nat → Nat → Rat)
    (hadd : ∀ a b c, a ≤ b → b ≤ c → tr a b + tr b c = tr a c) (ab : Nat × Nat) (hab : ab.1 ≤ ab.2) :
    assemble false tr ab = assemble true tr ab := by
  unfold assemble
  rw [if_neg Bool.false_ne_true, if_pos rfl]
  exact sub_eq_of_eq_add' (hadd 0 ab.1 ab.2 (Nat.zero_le _) hab).symm

/-- T7 (shared Data_K).  The group dictionary is a function of `(energies, emin, emax, thresh, Kramers, sea,
    select_bands)` and the `sea` flag matters: for the same window a sea calculator needs the lumped group that a
    surface calculator must not get.  Any memoisation across calculators sharing one Data_K must key on all of them. -/
theorem sea_flag_matters :
    groupsIK (ofList [-1, 1]) (1 / 100) 2 false 0 2 true none ≠ groupsIK (ofList [-1, 1]) (1 / 100) 2 false 0 2 false none := by
  decide +kernel

/-- T8 (uniform grids are necessary).  On the non-uniform grid 0, 1, 5 the code takes `dEF = 1`, so a band at
    `E = 3 ≤ 5` gets bin index 3, beyond the array: the Fermi-sea result at `Ef = 5` is 0 although the state is below
    it.  The hypothesis `Uniform` of the theorems above cannot be dropped (the property quantifies over uniform
    grids only). -/
theorem nonuniform_grid_miscounts :
    resolved 0 (ofList [0, 1, 5]) 3 (calcK 0 (ofList [0, 1, 5]) 3 (ofList [3]) (1 / 100) 1 false none sizeOf) 2 = 0 ∧
    stepSum (groupsWithValues (ofList [3]) (1 / 100) 1 false 0 5 true none sizeOf) 5 = 1 := by
  decide +kernel

/-- T9 (order of the selection).  `weight_select_bands` and the group filter — the only two places where the group
    dictionary reads `select_bands` — depend on it only as a multiset (repeated entries are counted with their
    multiplicity, as `np.sum` of the masks does). -/
theorem weight_select_perm_invariant {l l' : List Nat} (h : l.Perm l') (ab : Nat × Nat) :
    wsel (some l) ab = wsel (some l') ab ∧ selHits (some l) ab = selHits (some l') ab := by
  constructor
  · unfold wsel
    simp only
    rw [(h.filter _).length_eq]
  · unfold selHits
    simp only
    rw [Bool.eq_iff_iff, List.any_eq_true, List.any_eq_true]
    exact ⟨fun ⟨x, hx, hp⟩ => ⟨x, h.mem_iff.mp hx, hp⟩, fun ⟨x, hx, hp⟩ => ⟨x, h.mem_iff.mpr hx, hp⟩⟩

/-! ## non-vacuity -/

/-- a uniform 3-point grid 0, 1/2, 1 -/
example : Uniform (ofList [0, 1 / 2, 1]) 3 ∧ 0 < dEF (ofList [0, 1 / 2, 1]) 3 := by
  unfold Uniform
  decide +kernel
/-- bands -1, 1/4, 1/4 (a doublet), 2: the doublet is counted whole at Ef = 1/2; CumDOS = 1, 3, 3 -/
example : (List.range 3).map (cumdosK (ofList [0, 1 / 2, 1]) 3 (ofList [-1, 1 / 4, 1 / 4, 2]) (1 / 100) 4 false)
    = [1, 3, 3] := by decide +kernel
/-- DOS (fder = 1) of the same bands on the same grid: central differences of the CumDOS on -1/2 … 3/2 -/
example : (List.range 3).map (resolved 1 (ofList [0, 1 / 2, 1]) 3
    (calcK 1 (ofList [0, 1 / 2, 1]) 3 (ofList [-1, 1 / 4, 1 / 4, 2]) (1 / 100) 4 false none sizeOf)) = [2, 2, 0] := by
  decide +kernel

end WB.C13
