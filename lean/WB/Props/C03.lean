/-
  C03 — integrals depend only on the k-point set, not on its FFT factorisation: property theorems.
-/
import WB.Lemmas.C03
import WB.Lemmas.C06Bridge

namespace WB.C03
open WB.C06 Finset

/-! ## the index bijection of one direction: K-point `x < div`, FFT point `m < fft`  ↦  grid point `m·div + x` -/

theorem kset_bijection (d f : Nat) (hd : 0 < d) :
    (∀ x m, x < d → m < f → m * d + x < d * f) ∧
    (∀ x m x' m', x < d → x' < d → m * d + x = m' * d + x' → x = x' ∧ m = m') ∧
    (∀ n, n < d * f → ∃ x m, x < d ∧ m < f ∧ m * d + x = n) := by
  refine ⟨fun x m hx hm => mul_add_lt_mul d f x m hx hm, fun x m x' m' hx hx' h => ?_, fun n hn => ?_⟩
  · exact (mul_add_inj d m x m' x' hx hx' h).symm
  · exact ⟨n % d, n / d, Nat.mod_lt n hd, Nat.div_lt_of_lt_mul hn, by rw [Nat.mul_comm]; exact Nat.div_add_mod n d⟩

/-- the k-point that the code assigns to (K-point `x`, FFT point `i`), `(i/fft + (x/div)/fft) % 1`, IS grid point
    `i·div + x` of the full grid `div·fft` (the `% 1` does nothing on the initial grid) -/
theorem kpoint_is_grid_point (d f x i : Nat) (hx : x < d) (hi : i < f) :
    frac ((i : Rat) * (1 / (f : Rat)) + ((x : Rat) * (1 / (d : Rat))) / (f : Rat)) =
      ((i * d + x : Nat) : Rat) * (1 / ((d * f : Nat) : Rat)) := by
  have hd : (d : Rat) ≠ 0 := Nat.cast_ne_zero.2 (by omega)
  have e : (i : Rat) * (1 / (f : Rat)) + ((x : Rat) * (1 / (d : Rat))) / (f : Rat) =
      ((i * d + x : Nat) : Rat) / ((d * f : Nat) : Rat) := by
    rw [Nat.cast_add, Nat.cast_mul, Nat.cast_mul, add_div, mul_comm (d : Rat), mul_div_mul_right _ _ hd,
      mul_one_div, mul_one_div, div_div, mul_comm (d : Rat)]
  have hlt := mul_add_lt_mul d f x i hx hi
  rw [e, mul_one_div]
  refine frac_of_unit _ (div_nonneg (Nat.cast_nonneg _) (Nat.cast_nonneg _)) ?_
  rw [div_lt_one (Nat.cast_pos.2 (by omega))]
  exact Nat.cast_lt.2 hlt

/-! ## the weighted sum over all K-points and their FFT points is the plain mean over the full grid, for every
    factorisation and every function of k with values in a ℚ-module (scalars, tensors, arrays of them, …).
    Proved by re-indexing the sums direction by direction (`sum_factor`); `kset_bijection` is the pointwise statement. -/

theorem weighted_sum_is_grid_mean {V : Type} [AddCommMonoid V] [Module ℚ V] (syms : List Sym) (div fft : Idx)
    (hd : 0 < div.1 ∧ 0 < div.2.1 ∧ 0 < div.2.2) (hf : 0 < fft.1 ∧ 0 < fft.2.1 ∧ 0 < fft.2.2) (f : V3 → V) :
    wsum (gridKW (getKList syms div false) fft) f =
      gridMean (div.1 * fft.1, div.2.1 * fft.2.1, div.2.2 * fft.2.2) f := by
  -- no grid has to be non-empty: an index below `d` makes `d` positive, and the weights multiply by `div_div`
  have hc : (1 / ((nprod div : Nat) : Rat)) / ((nprod fft : Nat) : Rat) =
      1 / ((nprod (div.1 * fft.1, div.2.1 * fft.2.1, div.2.2 * fft.2.2) : Nat) : Rat) := by
    rw [div_div]; congr 1; simp only [nprod]; push_cast; ring
  rw [wsum_gridKW, gridMean, hc]
  congr 1
  simp only [sum_flatOrder]
  rw [← sum_factor3 div fft fun a b c => f (gridK _ (a, b, c))]
  refine sum_congr rfl fun x hx => sum_congr rfl fun y hy => sum_congr rfl fun z hz => sum_congr rfl fun i hi =>
    sum_congr rfl fun j hj => sum_congr rfl fun l hl => ?_
  rw [mem_range] at hx hy hz hi hj hl
  unfold kpointOf gridK
  rw [kpoint_is_grid_point _ _ _ _ hx hi, kpoint_is_grid_point _ _ _ _ hy hj, kpoint_is_grid_point _ _ _ _ hz hl]

/-- the statement of the property: two factorisations of the same grid give the same integral -/
theorem weighted_sum_invariant {V : Type} [AddCommMonoid V] [Module ℚ V] (syms syms' : List Sym)
    (div fft div' fft' : Idx)
    (hd : 0 < div.1 ∧ 0 < div.2.1 ∧ 0 < div.2.2) (hf : 0 < fft.1 ∧ 0 < fft.2.1 ∧ 0 < fft.2.2)
    (hd' : 0 < div'.1 ∧ 0 < div'.2.1 ∧ 0 < div'.2.2) (hf' : 0 < fft'.1 ∧ 0 < fft'.2.1 ∧ 0 < fft'.2.2)
    (h1 : div.1 * fft.1 = div'.1 * fft'.1) (h2 : div.2.1 * fft.2.1 = div'.2.1 * fft'.2.1)
    (h3 : div.2.2 * fft.2.2 = div'.2.2 * fft'.2.2) (f : V3 → V) :
    wsum (gridKW (getKList syms div false) fft) f = wsum (gridKW (getKList syms' div' false) fft') f := by
  rw [weighted_sum_is_grid_mean syms div fft hd hf, weighted_sum_is_grid_mean syms' div' fft' hd' hf', h1, h2, h3]

/-- non-vacuity: 6 = 1·6 = 2·3 = 3·2 = 6·1 along x (and 4 = 2·2 = 4·1, 2 = 1·2 along y, z), a non-symmetric function -/
example :
    let f : V3 → Rat := fun k => k.x * k.x + 3 * k.y + k.x * k.z
    wsum (gridKW (getKList [] (2, 2, 1) false) (3, 2, 2)) f = wsum (gridKW (getKList [] (3, 4, 2) false) (2, 1, 1)) f ∧
    wsum (gridKW (getKList [] (6, 1, 2) false) (1, 4, 1)) f = gridMean (6, 4, 2) f := by
  intro f
  exact ⟨weighted_sum_invariant [] [] (2, 2, 1) (3, 2, 2) (3, 4, 2) (2, 1, 1) (by decide) (by decide) (by decide)
      (by decide) rfl rfl rfl f,
    weighted_sum_is_grid_mean [] (6, 1, 2) (1, 4, 1) (by decide) (by decide) f⟩

/-! ## the folded FFT: with the K-shift phase `expdK` and R-vectors folded into (and added on) an FFT box that
    may be smaller than the range of R, FFT point `m` of K-point `x` gets the Fourier sum at grid point `m·div + x`.
    `pw n` stands for `exp(2πi n/(div·fft))`; the two hypotheses are the contract of `exp` (trusted, C02). -/

theorem folded_fft_is_direct_sum {K : Type} [CommSemiring K] (pw : Int → K) (Rs : List Int) (X : Int → K)
    (d f x m : Nat) (hf : 0 < f)
    (hadd : ∀ a b : Int, pw (a + b) = pw a * pw b)
    (hper : ∀ t : Int, pw ((d : Int) * (f : Int) * t) = 1) :
    foldedFT pw Rs X d f x m = directFT pw Rs X (m * d + x) := by
  unfold foldedFT directFT
  have h := sum_filter_partition f hf Rs (fun R c => X R * pw ((x : Int) * R) * pw ((d : Int) * (m : Int) * (c : Int)))
  simp only [← List.sum_map_mul_right]
  rw [h]
  congr 1
  apply List.map_congr_left
  intro R _
  have hr0 : 0 ≤ R % (f : Int) := Int.emod_nonneg R (by omega)
  rw [Int.toNat_of_nonneg hr0, mul_assoc, ← hadd]
  congr 1
  -- x R + d m (R % f) = (m d + x) R - d f (m (R / f))
  have : (x : Int) * R + (d : Int) * (m : Int) * (R % (f : Int)) =
      ((m * d + x : Nat) : Int) * R + (d : Int) * (f : Int) * (-(m : Int) * (R / (f : Int))) := by
    rw [Int.emod_def]; push_cast; ring
  rw [this, hadd, hper, mul_one]

/-- `(-1)^n` -/
def pwSign : Int → Rat := fun n => if n % 2 = 0 then 1 else -1

theorem pwSign_add (a b : Int) : pwSign (a + b) = pwSign a * pwSign b := by
  unfold pwSign
  rcases Int.emod_two_eq_zero_or_one a with ha | ha <;> rcases Int.emod_two_eq_zero_or_one b with hb | hb <;>
    simp [Int.add_emod, ha, hb]

theorem pwSign_per (d f : Nat) (h : d * f = 2) (t : Int) : pwSign ((d : Int) * (f : Int) * t) = 1 := by
  have : (d : Int) * (f : Int) = 2 := by exact_mod_cast h
  unfold pwSign
  rw [this]
  simp

/-- non-vacuity: `ζ = -1` (a grid of 2 points: 2 = 1·2 = 2·1) satisfies both hypotheses; R-vectors −3 … 3 are folded
    into a box of 2 (resp. 1) -/
example (X : Int → Rat) (m : Nat) :
    foldedFT pwSign [-3, -2, -1, 0, 1, 2, 3] X 1 2 0 m = directFT pwSign [-3, -2, -1, 0, 1, 2, 3] X (m * 1 + 0) :=
  folded_fft_is_direct_sum pwSign _ X 1 2 0 m (by norm_num) pwSign_add (pwSign_per 1 2 rfl)

example :
    let Rs : List Int := [-3, -2, -1, 0, 1, 2, 3]
    let X : Int → Rat := fun R => (R + 5 : Int)
    foldedFT pwSign Rs X 1 2 0 1 = directFT pwSign Rs X 1 ∧ directFT pwSign Rs X 1 = -5 ∧
    foldedFT pwSign Rs X 2 1 1 0 = directFT pwSign Rs X 1 := by
  decide +kernel

/-! ## the cell of a k-point (used by the tetrahedron method) has the size of the full grid for every factorisation -/

theorem cell_shape_invariant (div fft : Idx) (hd : 0 < div.1 ∧ 0 < div.2.1 ∧ 0 < div.2.2)
    (hf : 0 < fft.1 ∧ 0 < fft.2.1 ∧ 0 < fft.2.2) :
    dKFullBZ (gridDK div) fft = gridDK (div.1 * fft.1, div.2.1 * fft.2.1, div.2.2 * fft.2.2) := by
  simp only [dKFullBZ, gridDK, div_div, Nat.cast_mul]

/-! ## `determineNK`: a requested grid `NK` that is a multiple of the given `NKFFT` is reproduced exactly -/

theorem determineNK_exact (d f : Idx) (hd : 0 < d.1 ∧ 0 < d.2.1 ∧ 0 < d.2.2) (hf : 0 < f.1 ∧ 0 < f.2.1 ∧ 0 < f.2.2) :
    determineNK (true, true, true) none (some f) (some (d.1 * f.1, d.2.1 * f.2.1, d.2.2 * f.2.2)) = some (d, f) ∧
    determineNK (true, true, true) (some d) (some f) none = some (d, f) := by
  -- the quotient of the multiple `a * b` by `b` rounds to `a ≠ 0`; the second path returns its arguments
  have key : ∀ a b : Nat, 0 < b → (roundHE (((a * b : Nat) : Rat) / (b : Rat))).toNat = a := fun a b hb => by
    rw [Nat.cast_mul, mul_div_cancel_right₀ _ (Nat.cast_ne_zero.2 hb.ne'), ← Int.cast_natCast, roundHE_int,
      Int.toNat_natCast]
  constructor
  · simp only [determineNK, ↓reduceIte, key _ _ hf.1, key _ _ hf.2.1, key _ _ hf.2.2, hd.1.ne', hd.2.1.ne', hd.2.2.ne']
  · simp only [determineNK, ↓reduceIte]

/-! ## which factorisations are accepted.
    `weighted_sum_invariant` needs nothing but the k-set: without symmetry reduction EVERY factorisation gives the
    same integral.  The symmetry reduction of `get_K_list` (star of K taken in units of the K-grid) and the per-K
    symmetrisation in run() additionally need that the K-grid `NKdiv` is symmetric on its own (then the images of grid
    points are grid points again, `symmetric_grid_star_on_grid`), and the FFT sub-grid `NKFFT` likewise; a symmetric total
    grid `NKdiv * NKFFT` does not imply either (`total_grid_symmetric_not_enough`).  The rule the check enforces is the
    one of `determineNK`: `acceptNK` = every grid the caller specifies (NKdiv, NKFFT, NK) is symmetric on its own; a
    factorisation must EITHER be refused OR give the reference result (checked by the oracle). -/

theorem symmetric_grid_star_on_grid (syms : List Sym) (div : Idx) (hd : 0 < div.1 ∧ 0 < div.2.1 ∧ 0 < div.2.2)
    (hs : symmetricGrid syms div = true) (s : Sym) (hsm : s ∈ syms) (p : Idx) :
    isInt ((s.apply (gridK div p)).x * div.1) = true ∧ isInt ((s.apply (gridK div p)).y * div.2.1) = true ∧
    isInt ((s.apply (gridK div p)).z * div.2.2) = true := by
  obtain ⟨a, b, c⟩ := symmetricGrid_onGrid syms div hd hs s hsm p
  exact ⟨(isInt_iff _).mpr a, (isInt_iff _).mpr b, (isInt_iff _).mpr c⟩

/-- 4-fold rotation about z: the total grid 6x6x1 of NKdiv=(3,2,1) x NKFFT=(2,3,1) is symmetric, neither factor is, the
    rule refuses the factorisation, and the image of K-grid point (1,0,0) is off the K-grid (2/3 of a step along y) -/
theorem total_grid_symmetric_not_enough :
    let c4 : Sym := ⟨0, 1, 0, -1, 0, 0, 0, 0, 1, false, false⟩
    symmetricGrid [c4] (6, 6, 1) = true ∧ symmetricGrid [c4] (3, 2, 1) = false ∧ symmetricGrid [c4] (2, 3, 1) = false ∧
    acceptNK [c4] (some (3, 2, 1)) (some (2, 3, 1)) none = false ∧ acceptNK [c4] (some (3, 3, 1)) (some (2, 2, 1)) none = true ∧
    isInt ((c4.apply (gridK (3, 2, 1) (1, 0, 0))).y * 2) = false := by
  decide +kernel

/-! ## the sign of time reversal in the star of a K-point.  The model's `Sym.apply` is the code's rule
    `k ↦ iTR · iInv · (k M)`; with it the star relation of a group is an equivalence and equivalent points are merged
    with orbit weights (C06: `getKList_orbit_cover_of_group`).  `dropTR` is the rule without the TR sign.
    (a) If the group contains the inversion, both rules give the same set of images of every k
    (`star_images_same_with_inversion`) - this is why non-magnetic groups and groups with inversion cannot see the
    difference.  (b) For the magnetic group generated by C3z and C2y·TR on the hexagonal lattice (no inversion, no pure
    TR) and a 3x3 K-grid, the rule without the sign puts the inequivalent points K=(1/3,1/3) and K'=(2/3,2/3) into one
    star and changes the weights (`dropping_TR_sign_merges_valleys`). -/

theorem star_images_same_with_inversion (syms : List Sym)
    (hinv : ∀ s ∈ syms, ∃ t ∈ syms, t.tr = s.tr ∧ ∀ k : V3, t.apply k = negV (s.apply k)) (k v : V3) :
    (∃ s ∈ syms, v = (dropTR s).apply k) ↔ (∃ s ∈ syms, v = s.apply k) := by
  constructor <;> rintro ⟨s, hs, rfl⟩
  · rw [dropTR_apply]
    cases h : s.tr with
      | false => exact ⟨s, hs, rfl⟩
      | true =>
        obtain ⟨t, ht, _, hneg⟩ := hinv s hs
        exact ⟨t, ht, (hneg k).symm⟩
  · cases h : s.tr with
    | false => exact ⟨s, hs, by rw [dropTR_apply, h]; rfl⟩
    | true =>
      obtain ⟨t, ht, htr, hneg⟩ := hinv s hs
      exact ⟨t, ht, by rw [dropTR_apply, htr, h, hneg k]; exact (negV_negV _).symm⟩

/-- C3z, C2y·TR and their products, as reduced integer matrices read from the code's PointGroup (hexagonal lattice) -/
def magSyms : List Sym :=
  [⟨-1, 1, 0, -1, 0, 0, 0, 0, 1, false, false⟩, ⟨-1, 1, 0, 0, 1, 0, 0, 0, -1, false, true⟩,
   ⟨0, -1, 0, 1, -1, 0, 0, 0, 1, false, false⟩, ⟨0, -1, 0, -1, 0, 0, 0, 0, -1, false, true⟩,
   ⟨1, 0, 0, 0, 1, 0, 0, 0, 1, false, false⟩, ⟨1, 0, 0, 1, -1, 0, 0, 0, -1, false, true⟩]

theorem dropping_TR_sign_merges_valleys :
    groupCheck magSyms = true ∧ symmetricGrid magSyms (3, 3, 1) = true ∧
    starIdx magSyms (3, 3, 1) (1, 1, 0) = [(1, 1, 0)] ∧
    starIdx (magSyms.map dropTR) (3, 3, 1) (1, 1, 0) = [(1, 1, 0), (2, 2, 0)] ∧
    (getKList magSyms (3, 3, 1) true).map KPoint.factor = [1/9, 2/3, 1/9, 1/9] ∧
    (getKList (magSyms.map dropTR) (3, 3, 1) true).map KPoint.factor = [1/9, 1/3, 2/9, 1/3] := by
  decide +kernel

/-- non-vacuity of (a): the group {E, I, TR, I·TR} -/
example : ∀ s ∈ ([⟨1, 0, 0, 0, 1, 0, 0, 0, 1, false, false⟩, ⟨1, 0, 0, 0, 1, 0, 0, 0, 1, true, false⟩,
      ⟨1, 0, 0, 0, 1, 0, 0, 0, 1, false, true⟩, ⟨1, 0, 0, 0, 1, 0, 0, 0, 1, true, true⟩] : List Sym),
    ∃ t ∈ ([⟨1, 0, 0, 0, 1, 0, 0, 0, 1, false, false⟩, ⟨1, 0, 0, 0, 1, 0, 0, 0, 1, true, false⟩,
      ⟨1, 0, 0, 0, 1, 0, 0, 0, 1, false, true⟩, ⟨1, 0, 0, 0, 1, 0, 0, 0, 1, true, true⟩] : List Sym),
      t.tr = s.tr ∧ ∀ k : V3, t.apply k = negV (s.apply k) := by
  intro s hs
  refine ⟨{ s with inv := !s.inv }, ?_, rfl, apply_flipInv s⟩
  simp only [List.mem_cons, List.not_mem_nil, or_false] at hs
  rcases hs with rfl | rfl | rfl | rfl <;> decide

end WB.C03
